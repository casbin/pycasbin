import CasbinV.Model.Effect
import CasbinV.Model.Graph
import CasbinV.Gen.Effectors
import CasbinV.Props.C01
import CasbinV.Props.C08
import CasbinV.Model.Basic
import CasbinV.Model.Policy
import CasbinV.Proofs.ListFacts
import CasbinV.Proofs.EvalVector
import CasbinV.Proofs.StableInsert
import CasbinV.Props.C06
import CasbinV.Props.C07
import CasbinV.Model.Enforcer
import CasbinV.Proofs.EnfStep
import CasbinV.Props.C04
import CasbinV.Props.C09
import CasbinV.Props.C20
import CasbinV.Model.Matcher
import CasbinV.Model.MatcherExpr
import CasbinV.Model.MatcherTokens
import CasbinV.Props.C02
import CasbinV.Props.C02Lit
import CasbinV.Py.Str
import CasbinV.Model.Persist
import CasbinV.Spec.Persist
import CasbinV.Proofs.PyStr
import CasbinV.Proofs.Tokenizer
import CasbinV.Proofs.LoadLines
import CasbinV.Props.C10
import CasbinV.Props.C12
import CasbinV.Props.C05
import CasbinV.Props.C11
import CasbinV.Model.Fast
import CasbinV.Proofs.FastIndex
import CasbinV.Props.C19
import CasbinV.Model.RoleManager
import CasbinV.Props.C03
import CasbinV.Props.C14
import CasbinV.Props.C14Dom
import CasbinV.Props.C15
import CasbinV.Props.C07b
import CasbinV.Model.Builtin
import CasbinV.Spec.Builtin
import CasbinV.Gen.FunctionTable
import CasbinV.Props.C13
import CasbinV.Props.C13Ip
import CasbinV.Model.RWLock
import CasbinV.Model.Synced
import CasbinV.Gen.RWLockProg
import CasbinV.Gen.SyncedTable
import CasbinV.Proofs.RWLockAbs
import CasbinV.Proofs.RWLockInv
import CasbinV.Proofs.RWLockSim
import CasbinV.Proofs.RWLockTerm
import CasbinV.Props.C16
import CasbinV.Props.C17
import CasbinV.Props.C06u
import CasbinV.Props.C06r
import CasbinV.Props.C06f
import CasbinV.Props.UpdFiltered
import CasbinV.Props.C09u
import CasbinV.Props.C20o
import CasbinV.Props.C07f
import CasbinV.Props.C15f
import CasbinV.Props.C15q
import CasbinV.Model.LoadOrd
import CasbinV.Props.C11o
