/-!
# Level-bounded breadth-first reachability, as in `RoleManager._has_link` (role_manager.py)

```python
def _has_link(self, targets, roles, level):
    if level <= 0 or len(roles) == 0: return False
    next_roles = {}
    for role in roles.values():
        if targets.name == role.name or (match_fn and match_fn(role.name, targets.name)): return True
        role.range_roles(lambda key, value: next_roles[key] = value)
    return self._has_link(targets, next_roles, level - 1)
```
`has_link(n1, n2)` returns True when `n1 == n2` and otherwise calls `_has_link(role(n2), {n1: user}, max_hierarchy_level)`.
Core Lean only.
-/
namespace Casbin

abbrev Name := String
/-- a role graph: the set of (user, role) edges as a list; duplicates and order are irrelevant to every definition below -/
abbrev Graph := List (Name × Name)

def succs (g : Graph) (u : Name) : List Name := (g.filter (·.1 == u)).map (·.2)

/-- `_has_link` with the frontier as a list (the dict of next roles; duplicates harmless) -/
def hasLinkAux (g : Graph) (target : Name) : Nat → List Name → Bool
  | 0, _ => false
  | _, [] => false
  | lvl + 1, roles =>
    if roles.any (· == target) then true else hasLinkAux g target lvl (roles.flatMap (succs g))

/-- `RoleManager.has_link` (no matching function) -/
def hasLink (g : Graph) (maxLevel : Nat) (n1 n2 : Name) : Bool :=
  if n1 == n2 then true else hasLinkAux g n2 maxLevel [n1]

/-- a path of exactly `n` edges -/
inductive Path (g : Graph) : Name → Name → Nat → Prop
  | refl (u) : Path g u u 0
  | step {u v w n} : (u, v) ∈ g → Path g v w n → Path g u w (n + 1)

theorem succs_mem {g : Graph} {u v : Name} : v ∈ succs g u ↔ (u, v) ∈ g := by simp [succs]

theorem Path.mono {g1 g2 : Graph} (h : ∀ e, e ∈ g1 → e ∈ g2) {u v : Name} {n : Nat} (p : Path g1 u v n) :
    Path g2 u v n := by
  induction p with
  | refl u => exact .refl u
  | step he _ ih => exact .step (h _ he) ih

theorem path_snoc {g : Graph} {u v w : Name} {n : Nat} (p : Path g u v n) (e : (v, w) ∈ g) : Path g u w (n + 1) := by
  induction p with
  | refl u => exact .step e (.refl _)
  | step he _ ih => exact .step he (ih e)

theorem path_closed {g : Graph} {S : Name → Prop} (hS : ∀ x y, S x → (x, y) ∈ g → S y) {x r : Name} {n : Nat}
    (p : Path g x r n) (hx : S x) : S r := by
  induction p with
  | refl => exact hx
  | step he _ ih => exact ih (hS _ _ hx he)

theorem hasLinkAux_iff (g : Graph) (t : Name) (lvl : Nat) (roles : List Name) :
    hasLinkAux g t lvl roles = true ↔ ∃ r ∈ roles, ∃ n, n < lvl ∧ Path g r t n := by
  fun_induction hasLinkAux g t lvl roles with
  | case1 | case2 => simp
  | case3 l roles _ h =>
    obtain ⟨x, hx, hxt⟩ := List.any_eq_true.mp h
    exact iff_of_true rfl ⟨x, hx, 0, Nat.succ_pos _, by rw [beq_iff_eq] at hxt; exact hxt ▸ .refl _⟩
  | case4 l roles _ h ih =>
    rw [ih]
    constructor
    · rintro ⟨v, hv, n, hn, hp⟩
      obtain ⟨u, hu, huv⟩ := List.mem_flatMap.mp hv
      exact ⟨u, hu, n + 1, by omega, Path.step (succs_mem.mp huv) hp⟩
    · rintro ⟨u, hu, n, hn, hp⟩
      cases hp with
      | refl => exact absurd (List.any_eq_true.mpr ⟨_, hu, by simp⟩) h
      | step he hp' => exact ⟨_, List.mem_flatMap.mpr ⟨u, hu, succs_mem.mpr he⟩, _, by omega, hp'⟩

/-- C03: `has_link` ⇔ a path of fewer than `maxLevel` edges (every name holds itself, whatever the level) -/
theorem hasLink_iff (g : Graph) (maxLevel : Nat) (n1 n2 : Name) :
    hasLink g maxLevel n1 n2 = true ↔ n1 = n2 ∨ ∃ n, n < maxLevel ∧ Path g n1 n2 n := by
  unfold hasLink
  split <;> simp_all [hasLinkAux_iff]

end Casbin
