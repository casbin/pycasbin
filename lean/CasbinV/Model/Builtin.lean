/-!
# Model of `casbin/util/builtin_operators.py` (C13) — core Lean only, no proofs

Strings are `List Char` (`Str`). Every function is transcribed from the Python function named in its doc-string.
`re`, `ipaddress` are modelled only on the fragment the anchored code emits / the documented inputs; outside it a
model function answers `Out.outside` (the correspondence then says nothing, and reports how often).

The glob matcher is modelled AS REPAIRED by `fix: glob_match …` (finding F09): stars are collapsed without consuming
the next character, the `*/` shortcut continues the main loop, the general star loop returns `False` when exhausted.
-/
namespace Casbin.Builtin

abbrev Str := List Char

/-- what a modelled function answers -/
inductive Err | reError | valueError | k4Tokens
  deriving DecidableEq, Repr

inductive Out (α : Type) where
  | ok (a : α)
  | err (e : Err)
  /-- the input is outside the modelled fragment of `re` / `ipaddress` -/
  | outside
  deriving DecidableEq, Repr

def Out.map {α β : Type} (f : α → β) : Out α → Out β
  | .ok a => .ok (f a) | .err e => .err e | .outside => .outside

def Out.bind {α β : Type} (x : Out α) (f : α → Out β) : Out β :=
  match x with | .ok a => f a | .err e => .err e | .outside => .outside

/-! ## key_match / key_get -/

/-- `s.find(c)` for a one-character needle -/
def findIdx (c : Char) : Str → Option Nat
  | [] => none
  | x :: s => if x = c then some 0 else (findIdx c s).map (· + 1)

/-- `key_match(key1, key2)` -/
def keyMatch (k p : Str) : Bool :=
  match findIdx '*' p with
  | none => k == p
  | some i => if k.length > i then k.take i == p.take i else k == p.take i

/-- `key_get(key1, key2)` -/
def keyGet (k p : Str) : Str :=
  match findIdx '*' p with
  | none => []
  | some i => if k.length > i then (if k.take i == p.take i then k.drop i else []) else []

/-! ## range_match / glob_match -/

/-- one item of a class in `range_match`, after a possible backslash has been resolved to the character `c`:
    `c-c2` (with `c2` possibly escaped) unless the `-` is last or directly before `]`; `k` continues the loop -/
def rangeStep (test : Char) (k : Str → Bool → Option (Bool × Str)) (ok : Bool) (c : Char) (p : Str) :
    Option (Bool × Str) :=
  match p with
  | d :: c2 :: p2 =>
    if d = '-' then
      if c2 = ']' then k p (ok || c == test)
      else if c2 = '\\' then
        (match p2 with
         | [] => none
         | c2' :: p3 => k p3 (ok || (c ≤ test && test ≤ c2')))
      else k p2 (ok || (c ≤ test && test ≤ c2))
    else k p (ok || c == test)
  | _ => k p (ok || c == test)

/-- the `range_match` loop: the pattern after the current position, the test character, `ok` so far.
    Answers `none` for the early `return -1` (dangling backslash), else `(ok, rest of the pattern)`. -/
def rangeLoop (test : Char) : Nat → Str → Bool → Option (Bool × Str)
  | 0, _, _ => none
  | _ + 1, [], ok => some (ok, [])
  | fuel + 1, c :: p, ok =>
    if c = ']' then some (ok, p)
    else if c = '\\' then
      (match p with
       | [] => none
       | c' :: p' => rangeStep test (rangeLoop test fuel) ok c' p')
    else rangeStep test (rangeLoop test fuel) ok c p

/-- `range_match(pattern, pattern_index, test)` on the pattern suffix at `pattern_index`:
    `none` = `-1`, `some rest` = the new index (as the remaining pattern) -/
def rangeMatch (p : Str) (test : Char) : Option Str :=
  match p with
  | [] => none
  | c :: p' =>
    let negate := c == '!' || c == '^'
    let body := if negate then p' else p
    match rangeLoop test (body.length + 1) body false with
    | none => none
    | some (ok, rest) => if ok == negate then none else some rest

def noSlash : Str → Bool
  | [] => true
  | c :: s => c != '/' && noSlash s

/-- `string.find("/", i)`: the suffix *after* the first '/' -/
def afterSlash : Str → Option Str
  | [] => none
  | c :: s => if c = '/' then some s else afterSlash s

/-- the general star case: try every suffix, never stepping over '/'; does not try the empty suffix -/
def starLoop (m : Str → Bool) : Str → Bool
  | [] => false
  | c :: s => m (c :: s) || (c != '/' && starLoop m s)

def dropStars : Str → Str
  | '*' :: p => dropStars p
  | p => p

theorem dropStars_le (p : Str) : (dropStars p).length ≤ p.length := by
  fun_induction dropStars p <;> simp_all <;> omega

theorem rangeStep_le (test : Char) (k : Str → Bool → Option (Bool × Str)) (ok : Bool) (c : Char) (p : Str)
    (hk : ∀ q o b r, k q o = some (b, r) → r.length ≤ q.length) (b : Bool) (r : Str)
    (h : rangeStep test k ok c p = some (b, r)) : r.length ≤ p.length := by
  -- every branch is `none` or continues with `k` on a suffix `q` of `p`
  obtain ⟨q, o, hq, hl⟩ : ∃ q o, k q o = some (b, r) ∧ q.length ≤ p.length := by
    fun_cases rangeStep test k ok c p <;> simp only [rangeStep, ↓reduceIte, reduceCtorEq, *] at h
    all_goals exact ⟨_, _, h, by simp +arith⟩
  exact Nat.le_trans (hk q o b r hq) hl

theorem rangeLoop_le (test : Char) (fuel : Nat) (p : Str) (ok : Bool) (b : Bool) (r : Str)
    (h : rangeLoop test fuel p ok = some (b, r)) : r.length ≤ p.length := by
  induction fuel generalizing p ok b r with
  | zero => simp [rangeLoop] at h
  | succ fuel ih =>
    cases p with
    | nil => simp [rangeLoop] at h; simp [h]
    | cons c p =>
      simp only [rangeLoop] at h
      split at h
      · simp at h; simp [← h.2]
      · split at h
        · split at h
          · simp at h
          · have := rangeStep_le _ _ _ _ _ ih _ _ h
            simp only [List.length_cons]; omega
        · have := rangeStep_le _ _ _ _ _ ih _ _ h
          simp only [List.length_cons]; omega

theorem rangeMatch_lt (p : Str) (test : Char) (r : Str) (h : rangeMatch p test = some r) :
    r.length ≤ p.length := by
  cases p with
  | nil => simp [rangeMatch] at h
  | cons c p' =>
    simp only [rangeMatch] at h
    split at h
    · simp at h
    · rename_i ok rest heq
      have := rangeLoop_le _ _ _ _ _ _ heq
      split at h
      · simp at h
      · simp at h; subst h
        split at this <;> simp_all <;> omega

/-- `glob_match(string, pattern)` (arguments in the order pattern, string), repaired star case -/
def glob (p s : Str) : Bool :=
  match p with
  | [] => s.isEmpty
  | '?' :: p' => (match s with | [] => false | c :: s' => c != '/' && glob p' s')
  | '*' :: p' =>
    (match _h : dropStars p' with
     | [] => noSlash s
     | '/' :: q => (match afterSlash s with | none => false | some s' => glob q s')
     | c :: q => starLoop (fun s'' => glob (c :: q) s'') s)
  | '[' :: p' =>
    (match s with
     | [] => false
     | c :: s' =>
       if c = '/' then false
       else match _h : rangeMatch p' c with
         | none => false
         | some rest => glob rest s')
  | '\\' :: [] => (match s with | [] => false | c :: s' => c == '\\' && glob [] s')
  | '\\' :: e :: p' => (match s with | [] => false | c :: s' => c == e && glob p' s')
  | c :: p' => (match s with | [] => false | x :: s' => x == c && glob p' s')
termination_by p.length
decreasing_by
  all_goals simp_wf
  all_goals (try omega)
  all_goals (first
    | (have := dropStars_le p'; simp_all; omega)
    | (have := rangeMatch_lt _ _ _ _h; omega))

/-! ## The regex fragment the key matchers emit

`re.match("(?s)^" + key2 + r"\Z", key1)` for `key2` a sequence of quantified one-character atoms, optionally inside a
capturing group: literal, `.`, `[^/]`, `[^\/]` with quantifier none / `*` / `+` / `+?`.  Backtracking order is
CPython's (greedy: longest first, lazy: shortest first), so the captures of the *first* successful match are returned.
`.` matches every character, the line feed included (the code prefixes the inline flag `(?s)` = `re.DOTALL`, after
`fix: … let '*' match line feeds`); the pattern is anchored by `^` … `\Z`. -/

inductive Atom | chr (c : Char) | dot | notSlash
  deriving DecidableEq, Repr

def Atom.ok : Atom → Char → Bool
  | .chr c, x => x == c
  | .dot, _ => true
  | .notSlash, x => x != '/'

inductive Quant | one | star | plus | plusLazy
  deriving DecidableEq, Repr

structure Node where
  atom : Atom
  q : Quant
  cap : Bool
  deriving DecidableEq, Repr

/-- `\Z`: the end of the key (after `fix: … anchor the pattern with \Z`; `$` would also match before a final
    line feed) -/
def atEnd (s : Str) : Bool := s.isEmpty

/-- greedy repetition of a one-character test, then the continuation `k`; returns (consumed text, `k`'s answer) -/
def repG {α : Type} (ok : Char → Bool) (k : Str → Option α) : Bool → Str → Option (Str × α)
  | canStop, [] => if canStop then (k []).map (fun r => ([], r)) else none
  | canStop, c :: s =>
    match (if ok c then (repG ok k true s).map (fun wr => (c :: wr.1, wr.2)) else none) with
    | some x => some x
    | none => if canStop then (k (c :: s)).map (fun r => ([], r)) else none

/-- lazy repetition -/
def repL {α : Type} (ok : Char → Bool) (k : Str → Option α) : Bool → Str → Option (Str × α)
  | canStop, [] => if canStop then (k []).map (fun r => ([], r)) else none
  | canStop, c :: s =>
    match (if canStop then (k (c :: s)).map (fun r => (([] : Str), r)) else none) with
    | some x => some x
    | none => if ok c then (repL ok k true s).map (fun wr => (c :: wr.1, wr.2)) else none

/-- first successful match of the node sequence followed by `\Z`; answer = the captured groups in order -/
def matchNodes : List Node → Str → Option (List Str)
  | [], s => if atEnd s then some [] else none
  | n :: r, s =>
    let res : Option (Str × List Str) :=
      match n.q with
      | .one => (match s with
                 | [] => none
                 | c :: s' => if n.atom.ok c then (matchNodes r s').map (fun caps => ([c], caps)) else none)
      | .star => repG n.atom.ok (matchNodes r) true s
      | .plus => repG n.atom.ok (matchNodes r) false s
      | .plusLazy => repL n.atom.ok (matchNodes r) false s
    res.map (fun wc => if n.cap then wc.1 :: wc.2 else wc.2)

/-- characters that are special to `re` (a pattern containing one outside the emitted forms is not modelled) -/
def isMeta (c : Char) : Bool :=
  c == '.' || c == '^' || c == '$' || c == '*' || c == '+' || c == '?' || c == '{' || c == '}' ||
  c == '[' || c == ']' || c == '\\' || c == '|' || c == '(' || c == ')'

inductive PRes (α : Type) where
  | ok (a : α) (rest : Str)
  | err
  | outside
  deriving Repr

/-- one atom at the head of a regex string -/
def parseAtom : Str → PRes Atom
  | [] => .outside
  | c :: r =>
    if c = '[' then
      if r.take 3 = ['^', '/', ']'] then .ok .notSlash (r.drop 3)            -- `[^/]`
      else if r.take 4 = ['^', '\\', '/', ']'] then .ok .notSlash (r.drop 4)  -- `[^\/]`
      else .outside
    else if c = '.' then .ok .dot r
    else if c = '*' ∨ c = '+' ∨ c = '?' then .err       -- nothing to repeat
    else if c = '{' then
      (match r with
       | d :: _ => if d.isDigit || d == ',' then .outside else .ok (.chr '{') r
       | [] => .ok (.chr '{') r)
    else if c = '}' then .ok (.chr '}') r
    else if isMeta c then .outside else .ok (.chr c) r

def isQuantChar (c : Char) : Bool := c == '*' || c == '+' || c == '?'

/-- `{m,n}`-style quantifier start -/
def braceQuant : Str → Bool
  | c :: d :: _ => c == '{' && (d.isDigit || d == ',')
  | _ => false

/-- the quantifier after an atom -/
def parseQuant (s : Str) : PRes Quant :=
  match s with
  | [] => .ok .one []
  | c :: r =>
    if c = '*' then
      (match r with
       | d :: _ =>
         if d = '*' then .err                              -- multiple repeat
         else if d = '?' ∨ d = '+' then .outside            -- lazy star / possessive: not emitted
         else if braceQuant r then .outside else .ok .star r
       | [] => .ok .star r)
    else if c = '+' then
      (match r with
       | d :: r' =>
         if d = '?' then
           (match r' with
            | e :: _ => if isQuantChar e then .err else if braceQuant r' then .outside else .ok .plusLazy r'
            | [] => .ok .plusLazy r')
         else if d = '*' then .err
         else if d = '+' then .outside
         else if braceQuant r then .outside else .ok .plus r
       | [] => .ok .plus r)
    else if c = '?' then .outside
    else if braceQuant s then .outside else .ok .one s

/-- one item at the head of a regex string: a quantified atom, or a capturing group around one quantified atom
    (a quantified group is outside the fragment) -/
def parseItem (s : Str) : PRes Node :=
  match s with
  | [] => .outside
  | c :: r =>
    if c = '(' then
      (match parseAtom r with
       | .err => if r.head? = some '?' then .outside else .err   -- `(?…` is extension syntax, not an error
       | .outside => .outside
       | .ok a r1 =>
         match parseQuant r1 with
         | .err => .err
         | .outside => .outside
         | .ok q r2 =>
           match r2 with
           | d :: r3 =>
             if d = ')' then
               (match r3 with
                | e :: _ => if isQuantChar e || braceQuant r3 then .outside else .ok { atom := a, q := q, cap := true } r3
                | [] => .ok { atom := a, q := q, cap := true } r3)
             else .outside
           | [] => .outside)
    else
      (match parseAtom s with
       | .err => .err
       | .outside => .outside
       | .ok a r1 =>
         match parseQuant r1 with
         | .err => .err
         | .outside => .outside
         | .ok q r2 => .ok { atom := a, q := q, cap := false } r2)

/-- the body of a regex (between `^` and `\Z`) as a node list; `fuel` > the length suffices -/
def parseRe : Nat → Str → Out (List Node)
  | 0, _ => .outside
  | _ + 1, [] => .ok []
  | fuel + 1, c :: r =>
    match parseItem (c :: r) with
    | .err => .err .reError
    | .outside => .outside
    | .ok n rest => (parseRe fuel rest).map (fun ns => n :: ns)

/-- `re.match("(?s)^" + body + r"\Z", key)`: `ok none` = no match, `ok (some groups)` -/
def reMatchBody (body key : Str) : Out (Option (List Str)) :=
  (parseRe (body.length + 1) body).map (fun ns => matchNodes ns key)

/-- `re.match(re, key)` for a full regex string: must be `(?s)^…\Z` -/
def reMatchFull (re key : Str) : Out (Option (List Str)) :=
  match re with
  | '(' :: '?' :: 's' :: ')' :: '^' :: r =>
    (match r.reverse with
     | 'Z' :: '\\' :: br => reMatchBody br.reverse key
     | _ => .outside)
  | _ => .outside

/-! ## The rewrites (`str.replace`, `re.sub`, `re.findall` on the pattern) as character scanners -/

/-- `key2.replace("/*", "/.*")` -/
def replSlashStar : Str → Str
  | '/' :: '*' :: r => '/' :: '.' :: '*' :: replSlashStar r
  | c :: r => c :: replSlashStar r
  | [] => []

/-- maximal prefix without '/' -/
def takeSeg : Str → Str
  | [] => []
  | c :: s => if c = '/' then [] else c :: takeSeg s

/-- index of the first `}` before the next '/' -/
def firstClose : Str → Option Nat
  | [] => none
  | c :: s => if c = '}' then some 0 else if c = '/' then none else (firstClose s).map (· + 1)

/-- index of the last `}` inside the maximal run of non-'/' characters -/
def lastClose : Str → Option Nat
  | [] => none
  | c :: s =>
    if c = '/' then none
    else match lastClose s with
      | some i => some (i + 1)
      | none => if c = '}' then some 0 else none

/-- length of the match of `:[^/]+` at the head of the string (greedy: the whole run up to the next '/') -/
def varLenColon : Str → Option Nat
  | c :: d :: s => if c = ':' ∧ d ≠ '/' then some (2 + (takeSeg s).length) else none
  | _ => none

/-- length of the match of `{[^/]+?}` at the head (lazy: one character, then up to the first `}`) -/
def varLenBraceLazy : Str → Option Nat
  | c :: d :: s => if c = '{' ∧ d ≠ '/' then (firstClose s).map (· + 3) else none
  | _ => none

/-- length of the match of `{[^/]+}` at the head (greedy: up to the last `}` of the run; at least one character) -/
def varLenBraceGreedy : Str → Option Nat
  | c :: s => if c = '{' then (match lastClose s with | some (i + 1) => some (i + 3) | _ => none) else none
  | [] => none

/-- `re.sub(pat, emit, s)` for a pattern that cannot match the empty string (`(.*?)pat(.*?)` with `\g<1>…\g<2>`
    is the same substitution): scan left to right; where `pat` matches (`varLen` = length of its match at the
    head) emit the replacement and skip the match, otherwise copy one character. The `Nat` = characters still to skip. -/
def subVar (varLen : Str → Option Nat) (emit : Str) : Nat → Str → Str
  | _, [] => []
  | n + 1, _ :: s => subVar varLen emit n s
  | 0, c :: s =>
    match varLen (c :: s) with
    | some (n + 1) => emit ++ subVar varLen emit n s
    | _ => c :: subVar varLen emit 0 s

/-- `re.findall(pat, s)` mapped through `nameOf` (strip the colon / the braces) -/
def namesVar (varLen : Str → Option Nat) (nameOf : Str → Str) : Nat → Str → List Str
  | _, [] => []
  | n + 1, _ :: s => namesVar varLen nameOf n s
  | 0, c :: s =>
    match varLen (c :: s) with
    | some (n + 1) => nameOf ((c :: s).take (n + 1)) :: namesVar varLen nameOf n s
    | _ => namesVar varLen nameOf 0 s

/-- `key[1:]` -/
def nameColon (m : Str) : Str := m.drop 1
/-- `key[1:len(key)-1]` / `group(1)` -/
def nameBrace (m : Str) : Str := (m.drop 1).dropLast

def reNotSlashEsc : Str := "[^\\/]+".toList        -- `[^\/]+`
def reNotSlash : Str := "[^/]+".toList
def capNotSlashEsc : Str := "([^\\/]+)".toList
def capNotSlash : Str := "([^/]+)".toList
def capNotSlashLazy : Str := "([^/]+?)".toList
def capAll : Str := "(.*)".toList
def starStr : Str := ['*']

def rewrite2 (p : Str) : Str :=
  let r := subVar varLenColon reNotSlashEsc 0 (replSlashStar p)
  if r = starStr then capAll else r

def rewrite3 (p : Str) : Str := subVar varLenBraceLazy reNotSlashEsc 0 (replSlashStar p)
def rewrite4 (p : Str) : Str := subVar varLenBraceGreedy capNotSlash 0 (replSlashStar p)
def rewrite5 (p : Str) : Str := subVar varLenBraceGreedy reNotSlash 0 (replSlashStar p)

def rewriteGet2 (p : Str) : Str :=
  let r := subVar varLenColon capNotSlashEsc 0 (replSlashStar p)
  if r = starStr then capAll else r

def rewriteGet3 (p : Str) : Str :=
  let r := subVar varLenBraceLazy capNotSlashLazy 0 (replSlashStar p)
  if r = starStr then capAll else r

def asBool : Out (Option (List Str)) → Out Bool := Out.map Option.isSome

/-- `key_match2(key1, key2)` -/
def keyMatch2 (k p : Str) : Out Bool := asBool (reMatchBody (rewrite2 p) k)
/-- `key_match3(key1, key2)` -/
def keyMatch3 (k p : Str) : Out Bool := asBool (reMatchBody (rewrite3 p) k)

/-- `key1[:key1.find("?")]` -/
def dropQuery : Str → Str
  | [] => []
  | c :: s => if c = '?' then [] else c :: dropQuery s

/-- `key_match5(key1, key2)` -/
def keyMatch5 (k p : Str) : Out Bool := asBool (reMatchBody (rewrite5 p) (dropQuery k))

/-- the token/binding loop of `key_match4`: first occurrence binds, later ones must be equal -/
def bindCheck : List (Str × Str) → List (Str × Str) → Bool
  | _, [] => true
  | seen, (t, v) :: r =>
    match seen.lookup t with
    | none => bindCheck ((t, v) :: seen) r
    | some v0 => if v0 = v then bindCheck seen r else false

/-- `key_match4(key1, key2)` -/
def keyMatch4 (k p : Str) : Out Bool :=
  let p1 := replSlashStar p
  let toks := namesVar varLenBraceGreedy nameBrace 0 p1
  (reMatchBody (subVar varLenBraceGreedy capNotSlash 0 p1) k).bind fun m =>
    match m with
    | none => .ok false
    | some caps => if toks.length != caps.length then .err .k4Tokens else .ok (bindCheck [] (toks.zip caps))

/-- the final loop of `key_get2` / `key_get3` -/
def pickGroup (v : Str) : List Str → List Str → Str
  | n :: ns, g :: gs => if v = n then g else pickGroup v ns gs
  | _, _ => []

/-- does the `for` loop index `values.groups()` out of range before finding `path_var`? (IndexError) -/
def pickOverrun (v : Str) : List Str → List Str → Bool
  | n :: ns, _ :: gs => if v = n then false else pickOverrun v ns gs
  | n :: _, [] => v = n
  | [], _ => false

/-- `key_get2(key1, key2, path_var)` -/
def keyGet2 (k p v : Str) : Out Str :=
  let p1 := replSlashStar p
  let names := namesVar varLenColon nameColon 0 p1
  (reMatchBody (rewriteGet2 p) k).bind fun m =>
    match m with
    | none => .ok []
    | some caps => if pickOverrun v names caps then .outside else .ok (pickGroup v names caps)

/-- `key_get3(key1, key2, path_var)` -/
def keyGet3 (k p v : Str) : Out Str :=
  let p1 := replSlashStar p
  let names := namesVar varLenBraceLazy nameBrace 0 p1
  (reMatchBody (rewriteGet3 p) k).bind fun m =>
    match m with
    | none => .ok []
    | some caps => if pickOverrun v names caps then .outside else .ok (pickGroup v names caps)

/-! ## ip_match (IPv4 and IPv6)

`ipaddress.ip_address(ip1)`, `ipaddress.ip_network(ip2, strict=False)`, `ip1 in network` of CPython 3.12, transcribed
function by function. `none` = `AddressValueError` / `NetmaskValueError` (both are `ValueError`s). -/

def splitOn (sep : Char) : Str → List Str
  | [] => [[]]
  | c :: s =>
    if c = sep then [] :: splitOn sep s
    else match splitOn sep s with
      | [] => [[c]]       -- unreachable: `splitOn` never returns `[]`
      | w :: ws => (c :: w) :: ws

def isAsciiDigit (c : Char) : Bool := '0' ≤ c && c ≤ '9'

/-- `int(s)` for a string of ASCII digits -/
def digitsVal : Str → Nat → Nat
  | [], acc => acc
  | c :: s, acc => digitsVal s (acc * 10 + (c.toNat - '0'.toNat))

/-- `IPv4Address._parse_octet` -/
def parseOctet (s : Str) : Option Nat :=
  if s.isEmpty then none
  else if !s.all isAsciiDigit then none
  else if s.length > 3 then none
  else if s != ['0'] && s.head? == some '0' then none
  else
    let v := digitsVal s 0
    if v > 255 then none else some v

/-- `IPv4Address(s)._ip`; `none` = `AddressValueError` -/
def parseV4 (s : Str) : Option Nat :=
  match splitOn '.' s with
  | [a, b, c, d] =>
    (match parseOctet a, parseOctet b, parseOctet c, parseOctet d with
     | some a, some b, some c, some d => some (((a * 256 + b) * 256 + c) * 256 + d)
     | _, _, _, _ => none)
  | _ => none

/-- `_prefix_from_prefix_string` for a family whose `_max_prefixlen` is `w`: ASCII digits only (no sign, no blank,
    not empty; leading zeros are accepted by `int`), `0 ≤ value ≤ w`; `none` = `NetmaskValueError` -/
def parsePrefixW (w : Nat) (s : Str) : Option Nat :=
  if s.isEmpty || !s.all isAsciiDigit then none
  else
    let v := digitsVal s 0
    if v > w then none else some v

/-- `IPv4Network._prefix_from_prefix_string` -/
def parsePrefix (s : Str) : Option Nat := parsePrefixW 32 s

/-- `IPv6Network._prefix_from_prefix_string` (`_BaseV6._make_netmask` accepts nothing else: no netmask / hostmask
    spelling exists for IPv6) -/
def parsePrefix6 (s : Str) : Option Nat := parsePrefixW 128 s

/-- value of one character of `_BaseV6._HEX_DIGITS = frozenset('0123456789ABCDEFabcdef')`; `none` = not in the set -/
def hexVal (c : Char) : Option Nat :=
  if '0' ≤ c && c ≤ '9' then some (c.toNat - '0'.toNat)
  else if 'a' ≤ c && c ≤ 'f' then some (c.toNat - 'a'.toNat + 10)
  else if 'A' ≤ c && c ≤ 'F' then some (c.toNat - 'A'.toNat + 10)
  else none

def isHexDigit (c : Char) : Bool := (hexVal c).isSome

/-- `int(s, 16)` for a string of hex digits -/
def hexDigitsVal : Str → Nat → Nat
  | [], acc => acc
  | c :: s, acc => hexDigitsVal s (acc * 16 + (hexVal c).getD 0)

/-- `_BaseV6._parse_hextet`: only the 22 ASCII hex digits, at most 4 of them; the empty text fails in `int('', 16)`.
    `none` = `ValueError` -/
def parseHextet (s : Str) : Option Nat :=
  if !s.all isHexDigit then none
  else if s.length > 4 then none
  else if s.isEmpty then none
  else some (hexDigitsVal s 0)

/-- one element of the list `parts` of `_ip_int_from_string`: a piece of the text between two colons, or one of the
    two hextets `'%x' % …` that replace a dotted-quad suffix (the rendering is not modelled: such a part is not
    empty and `_parse_hextet` gives the number back) -/
inductive Part where
  | txt (s : Str)
  | num (v : Nat)
  deriving DecidableEq, Repr

/-- `not parts[i]` -/
def Part.isEmpty : Part → Bool
  | .txt s => s.isEmpty
  | .num _ => false

/-- `cls._parse_hextet(parts[i])` -/
def Part.val : Part → Option Nat
  | .txt s => parseHextet s
  | .num v => some v

/-- the two loops `ip_int <<= 16; ip_int |= cls._parse_hextet(parts[i])` (a hextet is below 2^16, so `|` adds) -/
def hextets (acc : Nat) : List Part → Option Nat
  | [] => some acc
  | p :: ps =>
    match p.val with
    | none => none
    | some v => hextets (acc * 65536 + v) ps

/-- the parts before the first empty part and, if there is one, the parts after it -/
def breakEmpty : List Part → List Part × Option (List Part)
  | [] => ([], none)
  | p :: ps =>
    if p.isEmpty then ([], some ps)
    else ((p :: (breakEmpty ps).1), (breakEmpty ps).2)

/-- `_BaseV6._ip_int_from_string` from the length check `len(parts) > _max_parts` on. `first`, `middle`, `last` =
    `parts[0]`, `parts[1:-1]`, `parts[-1]` (there are at least three parts). An empty part in the middle is `::`
    (`skip_index`), a second one is an error; with `::` an empty first (last) part is allowed only directly before
    (after) it, and at least one hextet must be skipped; without `::` exactly 8 non-empty parts. -/
def parseV6Parts (first : Part) (middle : List Part) (last : Part) : Option Nat :=
  if middle.length + 2 > 9 then none
  else match breakEmpty middle with
    | (_, none) =>
      if middle.length + 2 != 8 then none
      else if first.isEmpty then none
      else if last.isEmpty then none
      else hextets 0 (first :: middle ++ [last])
    | (h, some l) =>
      if l.any Part.isEmpty then none                       -- "At most one '::' permitted"
      else if first.isEmpty && !h.isEmpty then none         -- "Leading ':' only permitted as part of '::'"
      else if last.isEmpty && !l.isEmpty then none          -- "Trailing ':' only permitted as part of '::'"
      else
        let hi := if first.isEmpty then [] else first :: h
        let lo := if last.isEmpty then [] else l ++ [last]
        if hi.length + lo.length > 7 then none              -- `parts_skipped < 1`
        else
          match hextets 0 hi with
          | none => none
          | some x => hextets (x * 65536 ^ (8 - (hi.length + lo.length))) lo

/-- `(first, middle, last)` of a list with at least two elements -/
def ends : List Part → Option (Part × List Part × Part)
  | [] => none
  | [_] => none
  | p :: q :: r =>
    match ends (q :: r) with
    | none => some (p, [], q)                 -- `r = []`
    | some (q', m, l) => some (p, q' :: m, l)

/-- `_BaseV6._ip_int_from_string`: not empty, at least three colon-separated parts (counted BEFORE a dotted-quad
    suffix is replaced), a last part containing '.' must be an IPv4 address and becomes two hextets -/
def parseV6Core (s : Str) : Option Nat :=
  if s.isEmpty then none
  else
    let ps := splitOn ':' s
    if ps.length < 3 then none
    else
      let lastS := ps.getLast?.getD []
      let parts : Option (List Part) :=
        if lastS.contains '.' then
          (match parseV4 lastS with
           | none => none
           | some v => some (ps.dropLast.map Part.txt ++ [Part.num (v / 65536 % 65536), Part.num (v % 65536)]))
        else some (ps.map Part.txt)
      match parts with
      | none => none
      | some parts =>
        match ends parts with
        | none => none
        | some (f, m, l) => parseV6Parts f m l

/-- `IPv6Address._split_scope_id`: `addr, sep, scope_id = ip_str.partition('%')`; an empty zone or a second '%' is
    an error. Answers the address part (the zone takes no part in `in`). -/
def splitScope (s : Str) : Option Str :=
  match splitOn '%' s with
  | [a] => some a
  | [a, z] => if z.isEmpty then none else some a
  | _ => none

/-- `IPv6Address(s)._ip`; `none` = `AddressValueError` -/
def parseV6 (s : Str) : Option Nat :=
  if s.contains '/' then none          -- "Unexpected '/'"
  else match splitScope s with
    | none => none
    | some addr => parseV6Core addr

/-- address family; `width` = `_max_prefixlen` -/
inductive Fam | v4 | v6
  deriving DecidableEq, Repr

def Fam.width : Fam → Nat
  | .v4 => 32
  | .v6 => 128

/-- `ipaddress.ip_address(s)`: `IPv4Address(s)`, on failure `IPv6Address(s)`; `none` = `ValueError` -/
def parseAddr (s : Str) : Option (Fam × Nat) :=
  match parseV4 s with
  | some x => some (.v4, x)
  | none =>
    match parseV6 s with
    | some x => some (.v6, x)
    | none => none

/-- `addr & netmask` for a prefix length in a family of width `w`: clear the low `w - len` bits -/
def maskTo (w len : Nat) (x : Nat) : Nat := x - x % 2 ^ (w - len)

/-- `_prefix_from_ip_int`: the 32-bit number is `len` ones followed by zeros; `none` = `ValueError`
    ("mixes zeroes & ones") -/
def prefixFromInt (v : Nat) : Option Nat :=
  (List.range 33).find? (fun len => v == 2 ^ 32 - 2 ^ (32 - len))

/-- `IPv4Network._prefix_from_ip_string`: the mask text is parsed like an address; a netmask (ones then zeros, the
    all-zero and all-one words count as netmasks), else after `ip_int ^= _ALL_ONES` (= `2^32 - 1 - v`, the number is
    below 2^32) a hostmask (zeros then ones) -/
def prefixFromDotted (m : Str) : Option Nat :=
  match parseV4 m with
  | none => none
  | some v =>
    match prefixFromInt v with
    | some len => some len
    | none => prefixFromInt (4294967295 - v)

/-- `IPv4Network._make_netmask` on a text: a prefix length, else a dotted netmask / hostmask -/
def parseMask4 (m : Str) : Option Nat :=
  match parsePrefix m with
  | some len => some len
  | none => prefixFromDotted m

/-- `IPv4Network(b, strict=False)`: `_split_optional_netmask` (at most one '/'), the address, then the mask;
    answers (address as written, prefix length), `none` = `AddressValueError` / `NetmaskValueError` -/
def parseNet4 (b : Str) : Option (Nat × Nat) :=
  match splitOn '/' b with
  | [addr] =>
    (match parseV4 addr with
     | none => none
     | some y => some (y, 32))
  | [addr, m] =>
    (match parseV4 addr with
     | none => none
     | some y =>
       match parseMask4 m with
       | some len => some (y, len)
       | none => none)
  | _ => none

/-- `IPv6Network(b, strict=False)`; the network part may carry a zone (`IPv6Address(addr)` accepts it, the masked
    network address drops it); the mask is a prefix length, nothing else (`_BaseV6._make_netmask`) -/
def parseNet6 (b : Str) : Option (Nat × Nat) :=
  match splitOn '/' b with
  | [addr] =>
    (match parseV6 addr with
     | none => none
     | some y => some (y, 128))
  | [addr, m] =>
    (match parseV6 addr with
     | none => none
     | some y =>
       match parsePrefix6 m with
       | some len => some (y, len)
       | none => none)
  | _ => none

/-- `ip_match(ip1, ip2)`: `ip_address(ip1)` raises outside the `try`; `ip_network(ip2, strict=False)` tries
    `IPv4Network`, then `IPv6Network`; `ip1 in network` is `False` for different versions, else
    `ip1._ip & netmask == network_address._ip` (the network address is already masked, `strict=False`);
    an invalid pattern gives `ip1 == ip2`, an address object against a `str`: `False`.
    Nothing is left outside the model (`Out.outside` is never answered). -/
def ipMatch (a b : Str) : Out Bool :=
  match parseAddr a with
  | none => .err .valueError
  | some (f, x) =>
    match parseNet4 b with
    | some (y, len) =>
      (match f with
       | .v4 => .ok (maskTo 32 len x == maskTo 32 len y)
       | .v6 => .ok false)
    | none =>
      match parseNet6 b with
      | some (y, len) =>
        (match f with
         | .v4 => .ok false
         | .v6 => .ok (maskTo 128 len x == maskTo 128 len y))
      | none => .ok false

end Casbin.Builtin
