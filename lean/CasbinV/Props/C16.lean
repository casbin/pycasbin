import CasbinV.Proofs.RWLockInv
import CasbinV.Proofs.RWLockSim
import CasbinV.Proofs.RWLockTerm
import CasbinV.Gen.RWLockProg
/-!
# C16 — the readers-writer lock is writer-exclusive, deadlock-free, writer-preferring

Subject: `casbin/util/rwlock.py`, regenerated by translator T3 as `Gen.rwlockProg`. The lock theorems are stated over
the counter abstraction `CStep` (any number of threads, any number of rounds, any interleaving of single-instruction
steps, spurious wake-ups allowed) and transferred by the simulation `sim_step` (`Proofs/RWLockSim.lean`: every
interpreter step is a `CStep` of the abstraction, no stuttering) to the instruction-list interpreter `RW.step` on
`expected`: the `interp_*` theorems speak about the very functions the driver family `rwlock` executes.
-/
namespace Casbin.C16
open Casbin.RW

/-! ## Tie to the source (T3) -/

theorem generated_eq_expected : Gen.rwlockProg = expected := by decide


/-! ## The property theorems over the counter abstraction (any number of threads, any schedule) -/

/-- threads that own a read section: from the increment of `_active_readers` to its decrement -/
def rOwners (s : CS) : Nat := s.rH2 + s.rIn + s.rrW + s.rrH0
/-- threads that own the write section: from `_writer_active = True` to `_writer_active = False` -/
def wOwners (s : CS) : Nat := s.wH4 + s.wIn + s.wrW + s.wrH0
/-- writers that have announced themselves (`_waiting_writers += 1`) and have not yet got in -/
def wRegistered (s : CS) : Nat := s.wH1 + s.wS + s.wN + s.wH2

theorem mutex_exclusive {n : Nat} {s : CS} (r : Reach n s) : s.holders ≤ 1 := (inv_reach r).mutex

theorem readers_counted {n : Nat} {s : CS} (r : Reach n s) : s.ar = (rOwners s : Nat) := (inv_reach r).readers

theorem writer_flag {n : Nat} {s : CS} (r : Reach n s) : s.wa = wOwners s ∧ s.wa ≤ 1 :=
  ⟨(inv_reach r).writers, (inv_reach r).flag01⟩

theorem waiting_counted {n : Nat} {s : CS} (r : Reach n s) : s.ww = (wRegistered s : Nat) := (inv_reach r).waiting

/-- a thread inside a write section is alone: no other writer and no reader owns a section -/
theorem writer_exclusive {n : Nat} {s : CS} (r : Reach n s) : wOwners s ≤ 1 ∧ (0 < wOwners s → rOwners s = 0) := by
  have hI := inv_reach r
  have := hI.readers; have := hI.writers; have := hI.flag01; have := hI.excl
  simp only [wOwners, rOwners]
  omega

/-- in terms of the sections proper -/
theorem writer_inside_alone {n : Nat} {s : CS} (r : Reach n s) (h : 0 < s.wIn) : s.wIn = 1 ∧ s.rIn = 0 := by
  have := writer_exclusive r
  simp only [wOwners, rOwners] at this
  omega

/-- writer preference, step form: while some writer is registered as waiting, no reader passes the test of
    `aquire_read` and no reader gets inside (the set of readers past the test does not grow) -/
theorem writer_preference {n : Nat} {l : Lbl} {s t : CS} (r : Reach n s) (st : CStep l s t) (hw : 0 < wRegistered s) :
    t.rH1 + t.rH2 + t.rIn ≤ s.rH1 + s.rH2 + s.rIn := by
  have := (inv_reach r).waiting
  simp only [wRegistered] at hw
  cases st with
  -- `rPass` is the only way in, and its guard sees `_waiting_writers > 0`
  | rPass | rInc | rUnlock | rrStart => dsimp only; omega
  | _ => exact Nat.le_refl _

/-- who is inside a section changes only when a thread leaves `aquire_*` or starts `release_*` -/
theorem sections_step {l : Lbl} {s t : CS} (st : CStep l s t) :
    (t.rIn = s.rIn ∧ t.wIn = s.wIn) ∨ (0 < s.rH2 ∧ t.rIn = s.rIn + 1 ∧ t.wIn = s.wIn) ∨
    (0 < s.rIn ∧ t.rIn + 1 = s.rIn ∧ t.wIn = s.wIn) ∨ (0 < s.wH4 ∧ t.rIn = s.rIn ∧ t.wIn = s.wIn + 1) ∨
    (0 < s.wIn ∧ t.rIn = s.rIn ∧ t.wIn + 1 = s.wIn) := by
  cases st with
  | rUnlock _ g => exact .inr (.inl ⟨g, rfl, rfl⟩)
  | rrStart _ g => exact .inr (.inr (.inl ⟨g, Nat.sub_add_cancel g, rfl⟩))
  | wUnlock _ g => exact .inr (.inr (.inr (.inl ⟨g, rfl, rfl⟩)))
  | wrStart _ g => exact .inr (.inr (.inr (.inr ⟨g, rfl, Nat.sub_add_cancel g⟩)))
  | _ => exact .inl ⟨rfl, rfl⟩

/-- writer preference, entry form -/
theorem reader_enters_only_without_waiting_writer {n : Nat} {l : Lbl} {s t : CS} (r : Reach n s) (st : CStep l s t)
    (he : s.rIn < t.rIn) : wRegistered s = 0 ∧ s.ww = 0 := by
  have := (inv_reach r).waiting; have := (inv_reach r).rpass
  have := sections_step st
  simp only [wRegistered]
  omega

/-- no lost wake-up: whenever the mutex is free, every sleeper's blocking condition really holds — so the thread
    that will falsify it is still to come and will `notify_all` under the mutex -/
theorem no_lost_wakeup {n : Nat} {s : CS} (r : Reach n s) (hfree : s.holders = 0) :
    (0 < s.rS → 0 < s.ww ∨ 0 < s.wa) ∧ (0 < s.wS → 0 < s.ar ∨ 0 < s.wa) := by
  have := (inv_reach r).rs; have := (inv_reach r).ws
  have : s.wH3 + s.wrH1 + s.rrH1 + s.rrH1n ≤ s.holders := by simp only [CS.holders]; omega
  omega

/-- a sleeper waits for the owner of a section or for a registered writer that is not asleep; when the mutex is free
    these are at `rIn`, `rrW`, `wIn`, `wrW` and `wN`, so if nobody is there, nobody is asleep -/
theorem sleepers_not_alone {n : Nat} {s : CS} (r : Reach n s) (hfree : s.holders = 0)
    (h : s.rIn + s.rrW + s.wIn + s.wrW + s.wN = 0) : s.rS = 0 ∧ s.wS = 0 := by
  have hI := inv_reach r
  have := hI.readers; have := hI.writers; have := hI.waiting
  have := no_lost_wakeup r hfree
  -- the other owners and registered writers hold the mutex
  have : s.rH2 + s.rrH0 + (s.wH4 + s.wrH0) + (s.wH1 + s.wH2) ≤ s.holders := by simp only [CS.holders]; omega
  omega

theorem holder_steps {s : CS} (h : 0 < s.holders) : ∃ l t, CStep l s t ∧ l.progress = true := by
  by_cases c : 0 < s.rH0
  · by_cases g : (0 < s.ww ∨ 0 < s.wa)
    · exact ⟨_, _, .rWait s c g, rfl⟩
    · exact ⟨_, _, .rPass s c g, rfl⟩
  by_cases c1 : 0 < s.rH1; · exact ⟨_, _, .rInc s c1, rfl⟩
  by_cases c2 : 0 < s.rH2; · exact ⟨_, _, .rUnlock s c2, rfl⟩
  by_cases c3 : 0 < s.rrH0; · exact ⟨_, _, .rrDec s c3, rfl⟩
  by_cases c4 : 0 < s.rrH1
  · by_cases g : s.ar = 0
    · exact ⟨_, _, .rrIfT s c4 g, rfl⟩
    · exact ⟨_, _, .rrIfF s c4 g, rfl⟩
  by_cases c5 : 0 < s.rrH1n; · exact ⟨_, _, .rrNotify s c5, rfl⟩
  by_cases c6 : 0 < s.rrH2; · exact ⟨_, _, .rrUnlock s c6, rfl⟩
  by_cases c7 : 0 < s.wH0; · exact ⟨_, _, .wReg s c7, rfl⟩
  by_cases c8 : 0 < s.wH1
  · by_cases g : (0 < s.ar ∨ 0 < s.wa)
    · exact ⟨_, _, .wWait s c8 g, rfl⟩
    · exact ⟨_, _, .wPass s c8 g, rfl⟩
  by_cases c9 : 0 < s.wH2; · exact ⟨_, _, .wDec s c9, rfl⟩
  by_cases c10 : 0 < s.wH3; · exact ⟨_, _, .wSet s c10, rfl⟩
  by_cases c11 : 0 < s.wH4; · exact ⟨_, _, .wUnlock s c11, rfl⟩
  by_cases c12 : 0 < s.wrH0; · exact ⟨_, _, .wrClear s c12, rfl⟩
  by_cases c13 : 0 < s.wrH1; · exact ⟨_, _, .wrNotify s c13, rfl⟩
  by_cases c14 : 0 < s.wrH2; · exact ⟨_, _, .wrUnlock s c14, rfl⟩
  simp only [CS.holders] at h
  omega

/-- with the mutex free, whoever is inside a round and not asleep can step: a contender takes the mutex, the holder of
    a section starts its release -/
theorem contender_steps {s : CS} (hfree : s.holders = 0)
    (h : 0 < s.rW + s.rN + s.rIn + s.rrW + s.wW + s.wN + s.wIn + s.wrW) : ∃ l t, CStep l s t ∧ l.progress = true := by
  by_cases d1 : 0 < s.rW; · exact ⟨_, _, .rLock s d1 hfree, rfl⟩
  by_cases d2 : 0 < s.rN; · exact ⟨_, _, .rRelock s d2 hfree, rfl⟩
  by_cases d3 : 0 < s.rrW; · exact ⟨_, _, .rrLock s d3 hfree, rfl⟩
  by_cases d4 : 0 < s.wW; · exact ⟨_, _, .wLock s d4 hfree, rfl⟩
  by_cases d5 : 0 < s.wN; · exact ⟨_, _, .wRelock s d5 hfree, rfl⟩
  by_cases d6 : 0 < s.wrW; · exact ⟨_, _, .wrLock s d6 hfree, rfl⟩
  by_cases d7 : 0 < s.rIn; · exact ⟨_, _, .rrStart s d7, rfl⟩
  by_cases d8 : 0 < s.wIn; · exact ⟨_, _, .wrStart s d8, rfl⟩
  omega

/-- deadlock freedom: as long as some thread is inside a round, a progress step is enabled (a step other than a
    new arrival or a spurious wake-up) — holders of a section are assumed to release it (`rrStart`, `wrStart`) -/
theorem deadlock_free {n : Nat} {s : CS} (r : Reach n s) (hb : 0 < s.busy) :
    ∃ l t, CStep l s t ∧ l.progress = true := by
  rcases Nat.eq_zero_or_pos s.holders with hfree | hh
  · by_cases h : 0 < s.rW + s.rN + s.rIn + s.rrW + s.wW + s.wN + s.wIn + s.wrW
    · exact contender_steps hfree h
    · -- only sleepers are left
      have := sleepers_not_alone r hfree (by omega)
      simp only [CS.busy] at hb
      omega
  · exact holder_steps hh

/-! ### readers share: for every `k` a state with `k` readers inside together is reachable -/

def allIn (m k : Nat) : CS := { cinit m with rIn := k, ar := (k : Int) }

theorem reach_allIn (m k : Nat) : Reach (m + k) (allIn m k) := by
  induction k generalizing m with
  | zero => exact Reach.init
  | succ k ih =>
    -- one more thread goes through `aquire_read`
    have h0 : Reach (m + (k + 1)) (allIn (m + 1) k) := Nat.add_right_comm m 1 k ▸ ih (m + 1)
    have h1 := h0.step (.rStart _ (Nat.succ_pos m))
    have h2 := h1.step (.rLock _ (Nat.succ_pos 0) rfl)
    have h3 := h2.step (.rPass _ (Nat.succ_pos 0) (by simp [allIn, cinit]))
    have h4 := h3.step (.rInc _ (Nat.succ_pos 0))
    have h5 := h4.step (.rUnlock _ (Nat.succ_pos 0))
    refine cast (congrArg _ ?_) h5
    simp [allIn, cinit]

theorem readers_share (n k : Nat) (h : k ≤ n) : ∃ s, Reach n s ∧ s.rIn = k ∧ s.idle = n - k := by
  have := reach_allIn (n - k) k
  have e : n - k + k = n := by omega
  rw [e] at this
  exact ⟨_, this, rfl, rfl⟩


/-! ## The same properties for the instruction-list interpreter (transferred through the simulation) -/

/-- exclusion: in every state the interpreter reaches on the expected program a writer inside its section is alone
    (`exclOk` is the function the driver evaluates as `spec=`) -/
theorem interp_writer_exclusive {scripts : List (List Role)} {s : Sys} (r : IReach scripts s) : exclOk s = true := by
  obtain ⟨_, hr⟩ := interp_reach r
  simp only [exclOk, nInside_reader, nInside_writer]
  rcases Nat.eq_zero_or_pos (abs s).wIn with h | h
  · simp [h]
  · simp [writer_inside_alone hr h]

/-- the three variables count what they are meant to count, the mutex has at most one holder -/
theorem interp_counters {scripts : List (List Role)} {s : Sys} (r : IReach scripts s) :
    (abs s).holders ≤ 1 ∧ s.v.ar = (rOwners (abs s) : Nat) ∧ s.v.ww = (wRegistered (abs s) : Nat) ∧
      (s.v.wa = true ↔ wOwners (abs s) = 1) := by
  obtain ⟨_, hr⟩ := interp_reach r
  refine ⟨mutex_exclusive hr, readers_counted hr, waiting_counted hr, (waNat_pos s.v).symm.trans ?_⟩
  show 0 < (abs s).wa ↔ _
  have := writer_flag hr
  omega

/-- writer preference: no step of the interpreter lets a reader inside while a writer that has announced itself is
    still waiting (`prefOk`, likewise the driver's) -/
theorem interp_writer_preference {scripts : List (List Role)} {s s' : Sys} (r : IReach scripts s) (st : IStep s s') :
    prefOk s s' = true := by
  obtain ⟨hwf, hr⟩ := interp_reach r
  obtain ⟨_, l, hc⟩ := sim_istep hwf st
  simp only [prefOk, nInside_reader]
  by_cases hlt : (abs s).rIn < (abs s').rIn
  · have h0 := (reader_enters_only_without_waiting_writer hr hc hlt).1
    have hww : writerWaiting s = false := by
      cases hw : writerWaiting s with
      | false => rfl
      | true =>
        have := writerWaiting_pos hwf hw
        simp only [wRegistered] at h0
        omega
    simp [hww]
  · simp [hlt]

/-- deadlock freedom: in every reachable state of the interpreter in which not every thread has finished its script,
    some thread can take a step (holders of a section release it: leaving a section is a step of the interpreter) -/
theorem interp_deadlock_free {scripts : List (List Role)} {s : Sys} (r : IReach scripts s) (hnd : allDone s = false) :
    enabled expected s ≠ [] := by
  obtain ⟨hwf, hr⟩ := interp_reach r
  intro hen
  -- suppose no thread can step
  have hbl : ∀ t ∈ s.ts, (clsOf t.loc).loc.holds = false ∧ (mutexFree s.ts = true →
      clsOf t.loc = .rS ∨ clsOf t.loc = .wS ∨ (clsOf t.loc = .idle ∧ t.todo = [])) := by
    intro t ht
    obtain ⟨i, hi, rfl⟩ := List.getElem_of_mem ht
    exact step_blocked (v := s.v) (List.getElem?_eq_getElem hi) (loc_of_cls rfl (hwf _ ht)) (hwf _ ht)
      (Option.not_isSome_iff_eq_none.mp (List.filter_eq_nil_iff.mp hen i (List.mem_range.mpr hi)))
  -- then nobody holds the mutex, so every thread is asleep or has finished
  have hfree : mutexFree s.ts = true := List.all_eq_true.mpr fun t ht => by
    rw [loc_of_cls rfl (hwf t ht), (hbl t ht).1]; rfl
  have hz : ∀ c, c ≠ .idle → c ≠ .rS → c ≠ .wS → cnt c s.ts = 0 := by
    intro c h1 h2 h3
    refine List.countP_eq_zero.mpr fun t ht hc => ?_
    rw [beq_iff_eq] at hc
    rcases (hbl t ht).2 hfree with h | h | ⟨h, _⟩
    · exact h2 (hc ▸ h)
    · exact h3 (hc ▸ h)
    · exact h1 (hc ▸ h)
  -- and some thread is asleep
  have hpos : 0 < (abs s).rS + (abs s).wS := by
    obtain ⟨t, ht, hp⟩ := List.all_eq_false.mp hnd
    show 0 < cnt .rS s.ts + cnt .wS s.ts
    rcases (hbl t ht).2 hfree with h | h | ⟨h, htodo⟩
    · have := cnt_pos ht h; omega
    · have := cnt_pos ht h; omega
    · exact absurd (by simp [loc_of_cls h (by decide), htodo, Cls.loc]) hp
  have := sleepers_not_alone hr (holders_zero s hfree) (by simp [abs, hz])
  omega

/-- no lost wake-up in the interpreter's variables: with the mutex free, a sleeping reader is blocked by a registered
    or active writer, a sleeping writer by an active reader or writer -/
theorem interp_no_lost_wakeup {scripts : List (List Role)} {s : Sys} (r : IReach scripts s) (hfree : mutexFree s.ts = true) :
    (0 < cnt .rS s.ts → 0 < s.v.ww ∨ s.v.wa = true) ∧ (0 < cnt .wS s.ts → 0 < s.v.ar ∨ s.v.wa = true) := by
  rw [← waNat_pos]
  exact no_lost_wakeup (interp_reach r).2 (holders_zero s hfree)

/-- termination: from every state the interpreter reaches, every sequence of non-spurious steps is finite
    (`terminates_finite_programs`). With `interp_deadlock_free` (a step is enabled until all threads are done): every
    run ends with all scripts finished, i.e. every acquire eventually returns provided holders release. -/
theorem interp_terminates {scripts : List (List Role)} {s : Sys} (r : IReach scripts s) :
    Acc (fun (s' s : Sys) => ∃ i, step expected s i = some s') s := by
  have hwf := (interp_reach r).1
  have hacc := terminates_finite_programs.apply s
  clear r
  induction hacc with
  | intro x _ ih => exact Acc.intro x fun y ⟨i, hs⟩ => ih y ⟨hwf, i, hs⟩ (sim_step hwf hs).1


/-! ### Bridge to C17: the lock admits threads into their sections exactly as the abstract readers-writer lock of
    `Model/Synced.lean` does (`beginR`: no writer inside; `beginW`: nobody inside) -/

/-- a reader gets inside only when no writer is inside (before and after the step), a writer only when nobody is -/
theorem entry_guards {n : Nat} {l : Lbl} {s t : CS} (r : Reach n s) (st : CStep l s t) :
    (s.rIn < t.rIn → s.wIn = 0 ∧ t.wIn = 0) ∧ (s.wIn < t.wIn → s.wIn = 0 ∧ s.rIn = 0 ∧ t.rIn = 0) := by
  have hI := inv_reach r
  -- the entering reader is at `rH2` (no writer: `rpass`), the entering writer at `wH4` (it owns the flag: `writers`)
  have := hI.readers; have := hI.writers; have := hI.flag01; have := hI.excl; have := hI.rpass
  have := sections_step st
  omega

/-- the same for the interpreter's sections: the guards of `Synced.Step.beginR/beginW` -/
theorem interp_entry_guards {scripts : List (List Role)} {s s' : Sys} (r : IReach scripts s) (st : IStep s s') :
    (nInside .reader s < nInside .reader s' → nInside .writer s = 0 ∧ nInside .writer s' = 0) ∧
    (nInside .writer s < nInside .writer s' → nInside .writer s = 0 ∧ nInside .reader s = 0 ∧ nInside .reader s' = 0) := by
  obtain ⟨hwf, hr⟩ := interp_reach r
  obtain ⟨_, l, hc⟩ := sim_istep hwf st
  simp only [nInside_reader, nInside_writer]
  exact entry_guards hr hc

/-- the abstract readers-writer lock: state = (readers inside, writers inside); a reader enters only without a writer
    inside, a writer only when nobody is inside. This is the lock `Model/Synced.lean` assumes (`beginR`, `beginW`,
    `commit`). -/
inductive ALStep : Nat × Nat → Nat × Nat → Prop
  | enterR (r : Nat) : ALStep (r, 0) (r + 1, 0)
  | exitR (r w : Nat) : ALStep (r + 1, w) (r, w)
  | enterW : ALStep (0, 0) (0, 1)
  | exitW (r w : Nat) : ALStep (r, w + 1) (r, w)

/-- refinement: projected on section occupancy, every step of the lock program is a step of the abstract
    readers-writer lock or leaves the occupancy unchanged -/
theorem lock_refines_abstract {n : Nat} {l : Lbl} {s t : CS} (r : Reach n s) (st : CStep l s t) :
    (t.rIn, t.wIn) = (s.rIn, s.wIn) ∨ ALStep (s.rIn, s.wIn) (t.rIn, t.wIn) := by
  have hg := entry_guards r st
  rcases sections_step st with ⟨h1, h2⟩ | ⟨-, h1, h2⟩ | ⟨-, h1, h2⟩ | ⟨-, h1, h2⟩ | ⟨-, h1, h2⟩
  · exact .inl (by rw [h1, h2])
  · rw [h1, h2, (hg.1 (by omega)).1]; exact .inr (.enterR _)
  · rw [← h1, h2]; exact .inr (.exitR _ _)
  · rw [h1, h2, (hg.2 (by omega)).1, (hg.2 (by omega)).2.1]; exact .inr .enterW
  · rw [h1, ← h2]; exact .inr (.exitW _ _)

/-- the same for the interpreter: the section occupancy of every run on the expected program is a run of the abstract
    readers-writer lock, with stuttering -/
theorem interp_lock_refines_abstract {scripts : List (List Role)} {s s' : Sys} (r : IReach scripts s) (st : IStep s s') :
    (nInside .reader s', nInside .writer s') = (nInside .reader s, nInside .writer s) ∨
      ALStep (nInside .reader s, nInside .writer s) (nInside .reader s', nInside .writer s') := by
  obtain ⟨hwf, hr⟩ := interp_reach r
  obtain ⟨_, l, hc⟩ := sim_istep hwf st
  simp only [nInside_reader, nInside_writer]
  exact lock_refines_abstract hr hc

/-! ## Reachable states meeting the hypotheses of the theorems -/

def runSched (s : Sys) : List Nat → Option Sys
  | [] => some s
  | i :: is => match step expected s i with | some s' => runSched s' is | none => none

theorem ireach_run {scripts : List (List Role)} {s : Sys} (r : IReach scripts s) :
    ∀ (sched : List Nat) {s' : Sys}, runSched s sched = some s' → IReach scripts s'
  | [], s', h => by simp only [runSched, Option.some.injEq] at h; exact h ▸ r
  | i :: is, s', h => by
    simp only [runSched] at h
    split at h
    · rename_i s1 hs
      exact ireach_run (IReach.step r ⟨i, Or.inl hs⟩) is h
    · cases h

/-- a writer inside (`writer_inside_alone`) -/
example : ∃ s, Reach 1 s ∧ 0 < s.wIn ∧ wOwners s = 1 ∧ s.wa = 1 :=
  ⟨_, .step (.step (.step (.step (.step (.step (.step .init (.wStart _ (by decide))) (.wLock _ (by decide) (by decide)))
    (.wReg _ (by decide))) (.wPass _ (by decide) (by decide))) (.wDec _ (by decide))) (.wSet _ (by decide))) (.wUnlock _ (by decide)),
    by decide, by decide, by decide⟩

/-- behind a reader inside: a registered writer (`writer_preference`), asleep with the mutex free (`no_lost_wakeup`),
    in a busy state (`deadlock_free`) -/
example : ∃ s, Reach 2 s ∧ 0 < wRegistered s ∧ s.holders = 0 ∧ 0 < s.wS ∧ 0 < s.busy ∧ 0 < s.rIn :=
  ⟨_, .step (.step (.step (.step (.step (.step (.step (.step (.step .init (.rStart _ (by decide))) (.rLock _ (by decide) (by decide)))
    (.rPass _ (by decide) (by decide))) (.rInc _ (by decide))) (.rUnlock _ (by decide)))
    (.wStart _ (by decide))) (.wLock _ (by decide) (by decide))) (.wReg _ (by decide))) (.wWait _ (by decide) (by decide)),
    by decide, by decide, by decide, by decide, by decide⟩

/-- a step that lets a reader inside (`reader_enters_only_without_waiting_writer`, `entry_guards`) -/
example : ∃ s t, Reach 1 s ∧ CStep .rUnlock s t ∧ s.rIn < t.rIn :=
  ⟨_, _, .step (.step (.step (.step .init (.rStart _ (by decide))) (.rLock _ (by decide) (by decide)))
    (.rPass _ (by decide) (by decide))) (.rInc _ (by decide)), .rUnlock _ (by decide), by decide⟩

/-- reader inside, writer asleep behind it, second reader asleep behind the writer -/
example : ∃ s, IReach [[.reader], [.writer], [.reader]] s ∧ nInside .reader s = 1 ∧ writerWaiting s = true ∧
    mutexFree s.ts = true ∧ 0 < cnt .rS s.ts ∧ 0 < cnt .wS s.ts ∧ allDone s = false ∧ s.v.ww = 1 :=
  ⟨_, ireach_run .init [0, 0, 0, 0, 0, 1, 1, 1, 1, 2, 2, 2] rfl, by decide, by decide, by decide, by decide, by decide, by decide, by decide⟩

/-- a complete run of a reader and a writer, one round each -/
example : ∃ s, IReach [[.reader], [.writer]] s ∧ allDone s = true ∧ s.v = ⟨0, 0, false⟩ :=
  ⟨_, ireach_run .init [0, 0, 0, 0, 0, 1, 1, 1, 1, 0, 0, 0, 0, 0, 0, 1, 1, 1, 1, 1, 1, 1, 1, 1, 1] rfl, by decide, by decide⟩

/-- the termination measure at both ends of that run -/
example : mu (expected.init [[.reader], [.writer]]) = (2, 60) ∧
    (runSched (expected.init [[.reader], [.writer]])
      [0, 0, 0, 0, 0, 1, 1, 1, 1, 0, 0, 0, 0, 0, 0, 1, 1, 1, 1, 1, 1, 1, 1, 1, 1]).map mu = some (0, 0) := by decide

end Casbin.C16
