import CasbinV.Props.C04
import CasbinV.Props.C09
import CasbinV.Props.C06f
/-!
# `update_filtered_policies` at enforcer level (C04, C09, C20)

`Enf.updateFilteredStep` (F16): refused before anything is touched unless it applies; then the adapter is asked, then
memory is changed.
-/
namespace Casbin.Enf.UpdFiltered
open Casbin.Policy Casbin.Policy.C06 Casbin.Enf.C04 Casbin.Enf.C09

/-- the parts of the state the call can change are the `p` rules, the store, and the three logs -/
theorem frame (cfg : Cfg) (s : St) (news : List Rule) (idx : Nat) (vals : List String) :
    let s' := (updateFilteredStep cfg s news idx vals).1
    s'.links = s.links ∧ s'.pol.g = s.pol.g ∧ s'.pol.g2 = s.pol.g2 ∧ s'.autoBuild = s.autoBuild ∧
    s'.autoSave = s.autoSave ∧ s'.autoNotify = s.autoNotify := by
  rcases updateFilteredStep_guards cfg s news idx vals with ⟨r, h, _⟩ | ⟨old, hg, hr⟩
  · rw [h]; exact ⟨rfl, rfl, rfl, rfl, rfl, rfl⟩
  · rw [updateFilteredStep_eq hg hr]; exact ⟨rfl, rfl, rfl, rfl, rfl, rfl⟩

theorem p_nodup (cfg : Cfg) (s : St) (news : List Rule) (idx : Nat) (vals : List String) (hd : s.pol.p.Nodup) :
    (updateFilteredStep cfg s news idx vals).1.pol.p.Nodup := by
  rcases updateFilteredStep_guards cfg s news idx vals with ⟨r, h, _⟩ | ⟨old, hg, hr⟩
  · rw [h]; exact hd
  · rw [updateFilteredStep_eq hg hr]; exact updateFilteredWith_nodup _ _ _ hd

/-- C04: a filtered update never touches role links and keeps the permission rules duplicate-free -/
theorem coherent (cfg : Cfg) (s : St) (news : List Rule) (idx : Nat) (vals : List String) (h : Coherent cfg s) :
    Coherent cfg (updateFilteredStep cfg s news idx vals).1 := by
  obtain ⟨h1, h2, h3, h4, _, _⟩ := frame cfg s news idx vals
  exact ⟨by rw [h1, h2]; exact h.g, by rw [h1, h3]; exact h.g2, p_nodup cfg s news idx vals h.p, by rw [h4]; exact h.auto⟩

/-- C20: exactly one (generic) notification when the call reports success, a watcher is set and auto-notify is on
    (adapter or not: not `C20.Armed`), none otherwise -/
theorem notifies_once (cfg : Cfg) (s : St) (news : List Rule) (idx : Nat) (vals : List String) :
    let r := updateFilteredStep cfg s news idx vals
    r.1.wlog = if r.2 = .ok (.bool true) ∧ cfg.hasWatcher = true ∧ s.autoNotify = true then s.wlog ++ [.update] else s.wlog := by
  rcases updateFilteredStep_guards cfg s news idx vals with ⟨r, h, hne⟩ | ⟨old, hg, hr⟩
  · rw [h]; simp [hne]
  · rw [updateFilteredStep_eq hg hr]; simp [Bool.and_assoc]

theorem refused_noop (cfg : Cfg) (s : St) (news : List Rule) (idx : Nat) (vals : List String) (old : List Rule)
    (hg : Policy.getFiltered s.pol.p idx vals = .ok old) (hc : updateFilteredRefused s.pol.p old news = true) :
    updateFilteredStep cfg s news idx vals = (s, .ok (.bool false)) := by
  unfold updateFilteredStep
  rw [hg]; simp only [hc, ↓reduceIte]

/-- C09: with auto-save on and the store mirroring memory, a filtered update leaves the store mirroring memory;
    it answers `True` or `False`, and a call that answers `False` has changed nothing, adapter included -/
theorem mirror (cfg : Cfg) (s : St) (news : List Rule) (idx : Nat) (vals : List String)
    (had : cfg.hasAdapter = true) (hsave : s.autoSave = true) (hm : Mirror s) (hd : s.pol.p.Nodup)
    (hr : InRange idx vals s.pol.p) :
    Mirror (updateFilteredStep cfg s news idx vals).1 ∧
    ((updateFilteredStep cfg s news idx vals).2 = .ok (.bool false) → (updateFilteredStep cfg s news idx vals).1 = s) ∧
    ((updateFilteredStep cfg s news idx vals).2 = .ok (.bool true) ∨ (updateFilteredStep cfg s news idx vals).2 = .ok (.bool false)) := by
  have hg := getFiltered_exact s.pol.p idx vals hr
  cases hc : updateFilteredRefused s.pol.p (s.pol.p.filter (Spec.matchesFilter idx vals)) news with
  | true =>
    rw [refused_noop cfg s news idx vals _ hg (by simpa [Spec.getFiltered] using hc)]
    exact ⟨hm, fun _ => rfl, Or.inr rfl⟩
  | false =>
    unfold Mirror at hm
    have hres := updateFilteredWith_accepted s.pol.p news (Spec.matchesFilter idx vals) hd hc
    simp only [add_refines] at hres
    have hstore : Policy.getFiltered s.store.p idx vals = .ok (s.pol.p.filter (Spec.matchesFilter idx vals)) := by
      rw [hm, hg]; rfl
    rw [updateFilteredStep_eq hg hc]
    simp only [had, hsave, Bool.and_self, ↓reduceIte, hstore, Except.toOption, Option.getD_some, Spec.getFiltered, hres,
      Option.isSome_some]
    refine ⟨?_, fun h => by simp at h, by simp⟩
    simp [Mirror, applyACall, Pol.set, Pol.get, hm]

def exCfg : Cfg := { gCount := 2, g2Count := 0, hasAdapter := true, hasWatcher := false, watcherEx := false, watcherUpd := false }
def exSt : St :=
  { pol := { p := [["a", "1"], ["a", "2"], ["b", "1"]] }, store := { p := [["a", "1"], ["a", "2"], ["b", "1"]] } }

/-- the three situations of F16 (a new rule held outside the selection, nothing selected, no new rules) are refused
    without a trace; an update that applies goes through to memory and store alike -/
example :
    updateFilteredStep exCfg exSt [["b", "1"], ["c", "1"]] 0 ["a"] = (exSt, .ok (.bool false)) ∧
    updateFilteredStep exCfg exSt [["c", "1"]] 0 ["z"] = (exSt, .ok (.bool false)) ∧
    updateFilteredStep exCfg exSt [] 0 ["a"] = (exSt, .ok (.bool false)) ∧
    (updateFilteredStep exCfg exSt [["c", "1"], ["a", "1"]] 0 ["a"]).1.store.p = [["b", "1"], ["c", "1"], ["a", "1"]] ∧
    (updateFilteredStep exCfg exSt [["c", "1"], ["a", "1"]] 0 ["a"]).1.pol.p = [["b", "1"], ["c", "1"], ["a", "1"]] ∧
    (updateFilteredStep exCfg exSt [["c", "1"], ["a", "1"]] 0 ["a"]).2 = .ok (.bool true) := by decide

end Casbin.Enf.UpdFiltered
