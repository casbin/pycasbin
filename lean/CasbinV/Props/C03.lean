import CasbinV.Model.RoleManager
import CasbinV.Proofs.ListFacts
namespace Casbin.C03
open Casbin.RM

theorem mem_insertE {α : Type} [BEq α] [LawfulBEq α] {e x : α} {es : List α} :
    x ∈ insertE e es ↔ x = e ∨ x ∈ es := mem_setInsert

theorem mem_addAll {α : Type} [BEq α] [LawfulBEq α] {x : α} {new es : List α} :
    x ∈ addAll new es ↔ x ∈ es ∨ x ∈ new := by
  unfold addAll
  induction new generalizing es with
  | nil => simp
  | cons e new ih => simp only [List.foldl_cons, ih, mem_insertE, List.mem_cons]; grind

theorem nodup_insertE {α : Type} [BEq α] [LawfulBEq α] {e : α} {es : List α} (h : es.Nodup) : (insertE e es).Nodup :=
  nodup_setInsert h

theorem mem_dedup {α} [BEq α] [LawfulBEq α] {x : α} {l : List α} : x ∈ dedup l ↔ x ∈ l := by
  induction l with
  | nil => simp [dedup]
  | cons y ys ih => unfold dedup; grind

theorem mem_preds {g : Graph} {u v : Name} : u ∈ preds g v ↔ (u, v) ∈ g := by simp [preds]

/-- the induction of `hasLinkAux_iff` (Model/Graph.lean: the search of the enforcer-level models), here for the
    managers' own search, which is another function (frontier kept as a set by `dedup`, matching function `m` in the
    target test) -/
theorem bfs_iff (m : MatchFn) (g : Graph) (t : Name) (lvl : Nat) (roles : List Name) :
    bfs m g t lvl roles = true ↔
      ∃ r ∈ roles, ∃ n, n < lvl ∧ ∃ x, Path g r x n ∧ (x = t ∨ m x t = true) := by
  fun_induction bfs m g t lvl roles with
  | case1 | case2 => simp
  | case3 l roles _ h =>
    obtain ⟨x, hx, hxt⟩ := List.any_eq_true.mp h
    exact iff_of_true rfl ⟨x, hx, 0, Nat.succ_pos _, x, .refl _, by simpa using hxt⟩
  | case4 l roles _ h ih =>
    rw [ih]
    constructor
    · rintro ⟨v, hv, n, hn, x, hp, hx⟩
      obtain ⟨u, hu, huv⟩ := List.mem_flatMap.mp (mem_dedup.mp hv)
      exact ⟨u, hu, n + 1, by omega, x, Path.step (succs_mem.mp huv) hp, hx⟩
    · rintro ⟨u, hu, n, hn, x, hp, hx⟩
      cases hp with
      | refl => exact absurd (List.any_eq_true.mpr ⟨_, hu, by simpa using hx⟩) h
      | step he hp' =>
        exact ⟨_, mem_dedup.mpr (List.mem_flatMap.mpr ⟨u, hu, succs_mem.mpr he⟩), _, by omega, x, hp', hx⟩

/-- a path of exactly `n` steps of a relation (the assignments in force need not be a finite list of edges:
    under a matching function every matching name has the pattern's roles) -/
inductive PathR (R : Name → Name → Prop) : Name → Name → Nat → Prop
  | refl (u) : PathR R u u 0
  | step {u v w n} : R u v → PathR R v w n → PathR R u w (n + 1)

theorem PathR.mono {R S : Name → Name → Prop} (h : ∀ a b, R a b → S a b) {u v : Name} {n : Nat}
    (p : PathR R u v n) : PathR S u v n := by
  induction p with
  | refl u => exact .refl u
  | step he _ ih => exact .step (h _ _ he) ih

theorem PathR.congr {R S : Name → Name → Prop} (h : ∀ a b, R a b ↔ S a b) {u v : Name} {n : Nat} :
    PathR R u v n ↔ PathR S u v n :=
  ⟨PathR.mono fun a b => (h a b).mp, PathR.mono fun a b => (h a b).mpr⟩

theorem path_iff_pathR (g : Graph) (u v : Name) (n : Nat) : Path g u v n ↔ PathR (fun a b => (a, b) ∈ g) u v n := by
  constructor
  · intro h; induction h with
    | refl u => exact .refl u
    | step he _ ih => exact .step he ih
  · intro h; induction h with
    | refl u => exact .refl u
    | step he _ ih => exact .step he ih

/-- effective edges: `(n, b)` when some assignment `(a, b)` is in force with `n = a` or `n` matching `a` -/
def EStar (m : MatchFn) (L : List Link) (n b : Name) : Prop := ∃ a, (a, b) ∈ L ∧ (n = a ∨ m n a = true)

theorem EStar_congr {m : MatchFn} {L L' : List Link} (h : ∀ l, l ∈ L ↔ l ∈ L') (x y : Name) :
    EStar m L x y ↔ EStar m L' x y := by
  simp only [EStar, h]

/-- needed because `_get_role` copies the roles of the nodes a new name matches, and those nodes hold roles through
    the patterns THEY match (`EStar_new`); `C14.nontransitive_order_dependent` shows what happens without it -/
def Trans (m : MatchFn) : Prop := ∀ n p a, m n p = true → m p a = true → m n a = true

theorem mtch_some {s : RM} {f : MatchFn} (h : s.matchFn = some f) : s.mtch = f := by
  funext a b; simp [RM.mtch, h]
theorem mtch_none {s : RM} (h : s.matchFn = none) : s.mtch = fun _ _ => false := by
  funext a b; simp [RM.mtch, h]

@[simp] theorem getRole_allLinks (s : RM) (n : Name) : (s.getRole n).allLinks = s.allLinks := by
  unfold RM.getRole; split <;> rfl
@[simp] theorem getRole_maxLevel (s : RM) (n : Name) : (s.getRole n).maxLevel = s.maxLevel := by
  unfold RM.getRole; split <;> rfl
@[simp] theorem getRole_matchFn (s : RM) (n : Name) : (s.getRole n).matchFn = s.matchFn := by
  unfold RM.getRole; split <;> rfl
@[simp] theorem getRole_mtch (s : RM) (n : Name) : (s.getRole n).mtch = s.mtch := by
  funext a b; simp [RM.mtch]
@[simp] theorem getRole_condFns (s : RM) (n : Name) : (s.getRole n).condFns = s.condFns := by
  unfold RM.getRole; split <;> rfl
@[simp] theorem getRole_condParams (s : RM) (n : Name) : (s.getRole n).condParams = s.condParams := by
  unfold RM.getRole; split <;> rfl

theorem mem_getRole_nodes {s : RM} {n x : Name} : x ∈ (s.getRole n).nodes ↔ x ∈ s.nodes ∨ x = n := by
  unfold RM.getRole
  split
  · rename_i h
    have := List.contains_iff_mem.mp h
    constructor
    · exact Or.inl
    · rintro (h | rfl) <;> assumption
  · simp

theorem getRole_of_mem {s : RM} {n : Name} (h : n ∈ s.nodes) : s.getRole n = s := by
  unfold RM.getRole; simp [h]

theorem mem_copyFrom {n p : Name} {es : Graph} {e : Link} :
    e ∈ copyFrom n p es ↔
      (e ∈ es ∨ ∃ y, (p, y) ∈ es ∧ (n, y) = e) ∨
      ∃ u, ((u, p) ∈ es ∨ ∃ y, (p, y) ∈ es ∧ (n, y) = (u, p)) ∧ (u, n) = e := by
  simp only [copyFrom, mem_addAll, List.mem_map, mem_preds, succs_mem]

/-- first sight of `n` when no node it matches is the role of anything (`hP`): `n` gets the roles of the nodes it
    matches and nothing else changes -/
theorem mem_fold_copy (n : Name) (P : List Name) (es : Graph)
    (hP : ∀ p ∈ P, ∀ u, (u, p) ∉ es) (e : Link) :
    e ∈ P.foldl (fun es p => copyFrom n p es) es ↔ e ∈ es ∨ ∃ p ∈ P, ∃ y, (p, y) ∈ es ∧ (n, y) = e := by
  induction P generalizing es with
  | nil => simp
  | cons p P ih =>
    have hp := hP p (List.mem_cons_self)
    -- a pattern node without users only hands its roles to `n`
    have hcopy : ∀ e, e ∈ copyFrom n p es ↔ e ∈ es ∨ ∃ y, (p, y) ∈ es ∧ (n, y) = e := by
      intro e
      rw [mem_copyFrom]
      constructor
      · rintro (h | ⟨u, (hu | ⟨y, hy, he⟩), _⟩)
        · exact h
        · exact absurd hu (hp u)
        · exact absurd ((Prod.mk.inj he).2 ▸ hy) (hp p)
      · exact Or.inl
    have hP' : ∀ q ∈ P, ∀ u, (u, q) ∉ copyFrom n p es := by
      intro q hq u hu
      rcases (hcopy _).mp hu with hu | ⟨y, hy, he⟩
      · exact hP q (List.mem_cons_of_mem _ hq) u hu
      · exact hP q (List.mem_cons_of_mem _ hq) p ((Prod.mk.inj he).2 ▸ hy)
    rw [List.foldl_cons, ih _ hP']
    simp only [hcopy, List.mem_cons]
    constructor
    · rintro ((h | h) | ⟨q, hq, y, (hy | ⟨z, hz, he⟩), rfl⟩)
      · exact Or.inl h
      · exact Or.inr ⟨p, Or.inl rfl, h⟩
      · exact Or.inr ⟨q, Or.inr hq, y, hy, rfl⟩
      · obtain ⟨rfl, rfl⟩ := Prod.mk.inj he
        exact Or.inr ⟨p, Or.inl rfl, _, hz, rfl⟩
    · rintro (h | ⟨q, (rfl | hq), y, hy, rfl⟩)
      · exact Or.inl (Or.inl h)
      · exact Or.inl (Or.inr ⟨y, hy, rfl⟩)
      · exact Or.inr ⟨q, hq, y, Or.inl hy, rfl⟩

/-- The graph invariant. `plain`: the role of a stored link is matched by no other name (patterns sit on the user
    side); `edges`: the graph is exactly the effective edges `E*` restricted to the nodes that exist. -/
structure Inv (s : RM) : Prop where
  nodup : s.allLinks.Nodup
  ends : ∀ a b, (a, b) ∈ s.allLinks → a ∈ s.nodes ∧ b ∈ s.nodes
  plain : ∀ a b, (a, b) ∈ s.allLinks → ∀ n, s.mtch n b = true → n = b
  edges : ∀ n b, (n, b) ∈ s.edges ↔ n ∈ s.nodes ∧ EStar s.mtch s.allLinks n b

/-- nothing is asked of the nodes: `condClear` keeps some -/
theorem inv_of_empty {s : RM} (hl : s.allLinks = []) (he : s.edges = []) : Inv s := by
  refine ⟨?_, ?_, ?_, ?_⟩ <;> simp [hl, he, EStar]

/-- a name seen for the first time is the user of no stored link (`ends`), so it holds a role only through a stored
    user it matches; by transitivity these are the roles of the existing nodes it matches: what `_get_role` copies -/
theorem EStar_new {s : RM} (ht : Trans s.mtch) (h : Inv s) {n : Name} (hn : n ∉ s.nodes) (y : Name) :
    EStar s.mtch s.allLinks n y ↔ ∃ p, (p ∈ s.nodes ∧ s.mtch n p = true) ∧ (p, y) ∈ s.edges := by
  simp only [h.edges, EStar]
  constructor
  · rintro ⟨a, hab, hna⟩
    have ha := (h.ends a y hab).1
    exact ⟨a, ⟨ha, hna.resolve_left fun e => hn (e ▸ ha)⟩, ha, a, hab, .inl rfl⟩
  · rintro ⟨p, ⟨_, hnp⟩, _, a, hab, hpa⟩
    exact ⟨a, hab, .inr (hpa.elim (· ▸ hnp) (ht _ _ _ hnp))⟩

theorem getRole_inv {s : RM} (ht : Trans s.mtch) (h : Inv s) (n : Name) : Inv (s.getRole n) := by
  by_cases hn : n ∈ s.nodes
  · rw [getRole_of_mem hn]; exact h
  · have hedges : (s.getRole n).edges =
        (s.nodes.filter fun p => s.mtch n p).foldl (fun es p => copyFrom n p es) s.edges := by
      unfold RM.getRole
      simp [hn]
    refine ⟨by simpa using h.nodup, ?_, by rw [getRole_allLinks, getRole_mtch]; exact h.plain, ?_⟩
    · simp only [getRole_allLinks, mem_getRole_nodes]
      exact fun a b hab => ⟨.inl (h.ends a b hab).1, .inl (h.ends a b hab).2⟩
    · intro x y
      rw [hedges, mem_fold_copy, getRole_allLinks, getRole_mtch, mem_getRole_nodes]
      · simp only [List.mem_filter, Prod.mk.injEq, h.edges x y]
        constructor
        · rintro (⟨hx, hE⟩ | ⟨p, hp, z, hz, rfl, rfl⟩)
          · exact ⟨.inl hx, hE⟩
          · exact ⟨.inr rfl, (EStar_new ht h hn _).mpr ⟨p, hp, hz⟩⟩
        · rintro ⟨hx | rfl, hE⟩
          · exact .inl ⟨hx, hE⟩
          · obtain ⟨p, hp, hz⟩ := (EStar_new ht h hn y).mp hE
            exact .inr ⟨p, hp, y, hz, rfl, rfl⟩
      · -- a node that `n` matches is no stored role (`plain`), so it has no users
        intro p hp u hup
        simp only [List.mem_filter] at hp
        obtain ⟨_, a, hab, _⟩ := (h.edges u p).mp hup
        exact hn (h.plain a p hab n hp.2 ▸ hp.1)

/-- `add_link`, `delete_link` and `has_link` begin by looking up both names -/
theorem getRole2_inv {s : RM} (ht : Trans s.mtch) (h : Inv s) (a b : Name) : Inv ((s.getRole a).getRole b) :=
  getRole_inv (by simpa using ht) (getRole_inv ht h a) b

theorem mem_getRole2_nodes {s : RM} {a b x : Name} :
    x ∈ ((s.getRole a).getRole b).nodes ↔ x ∈ s.nodes ∨ x = a ∨ x = b := by
  simp [mem_getRole_nodes, or_assoc]

theorem mem_extra {t : RM} {a b : Name} {e : Link} :
    e ∈ t.extra a b ↔
      (∃ r, (r ∈ t.nodes ∧ r ≠ a ∧ t.mtch r a = true) ∧ (r, b) = e) ∨
      (∃ r, (r ∈ t.nodes ∧ r ≠ b ∧ t.mtch r b = true) ∧ (b, r) = e) := by
  simp only [RM.extra, List.mem_append, List.mem_map, List.mem_filter, Bool.and_eq_true, bne_iff_ne, ne_eq]

theorem addLink_allLinks (s : RM) (a b : Name) : (s.addLink a b).allLinks = insertE (a, b) s.allLinks := by
  simp [RM.addLink]
@[simp] theorem addLink_nodes (s : RM) (a b : Name) : (s.addLink a b).nodes = ((s.getRole a).getRole b).nodes := by
  simp [RM.addLink]
@[simp] theorem addLink_mtch (s : RM) (a b : Name) : (s.addLink a b).mtch = s.mtch := by
  funext x y; simp [RM.mtch, RM.addLink]
@[simp] theorem addLink_maxLevel (s : RM) (a b : Name) : (s.addLink a b).maxLevel = s.maxLevel := by
  simp [RM.addLink]
@[simp] theorem addLink_matchFn (s : RM) (a b : Name) : (s.addLink a b).matchFn = s.matchFn := by
  simp [RM.addLink]

theorem EStar_split {m : MatchFn} {L L' : List Link} {a b : Name} (h : ∀ l, l ∈ L ↔ l ∈ L' ∨ l = (a, b))
    (x y : Name) : EStar m L x y ↔ EStar m L' x y ∨ (y = b ∧ (x = a ∨ m x a = true)) := by
  simp only [EStar, h, Prod.mk.injEq, or_and_right, exists_or, and_assoc, exists_eq_left]

theorem EStar_insert {m : MatchFn} {L : List Link} {a b x y : Name} :
    EStar m (insertE (a, b) L) x y ↔ EStar m L x y ∨ (y = b ∧ (x = a ∨ m x a = true)) :=
  EStar_split (fun l => by rw [mem_insertE, or_comm]) x y

theorem addLink_inv {s : RM} (ht : Trans s.mtch) (h : Inv s) (a b : Name)
    (hb : ∀ n, s.mtch n b = true → n = b) : Inv (s.addLink a b) := by
  have hI := getRole2_inv ht h a b
  refine ⟨?_, ?_, ?_, ?_⟩
  · rw [addLink_allLinks]; exact nodup_insertE h.nodup
  · intro x y hxy
    rw [addLink_allLinks, mem_insertE] at hxy
    rw [addLink_nodes]
    rcases hxy with hxy | hxy
    · obtain ⟨rfl, rfl⟩ := Prod.mk.inj hxy
      exact ⟨mem_getRole2_nodes.mpr (.inr (.inl rfl)), mem_getRole2_nodes.mpr (.inr (.inr rfl))⟩
    · exact hI.ends x y (by simpa using hxy)
  · intro x y hxy n hm
    rw [addLink_allLinks, mem_insertE] at hxy
    rw [addLink_mtch] at hm
    rcases hxy with hxy | hxy
    · obtain ⟨rfl, rfl⟩ := Prod.mk.inj hxy; exact hb n hm
    · exact h.plain x y hxy n hm
  · intro x y
    have hE : (x, y) ∈ (s.addLink a b).edges ↔
        (x, y) ∈ ((s.getRole a).getRole b).edges ∨ (x, y) = (a, b) ∨ (x, y) ∈ ((s.getRole a).getRole b).extra a b := by
      simp only [RM.addLink, mem_addAll, List.mem_cons]
    rw [hE, hI.edges, mem_extra, addLink_allLinks, addLink_mtch, addLink_nodes, EStar_insert]
    simp only [getRole_mtch, getRole_allLinks, Prod.mk.injEq]
    constructor
    · rintro (⟨hx, hE⟩ | ⟨rfl, rfl⟩ | ⟨r, ⟨h1, h2, h3⟩, rfl, rfl⟩ | ⟨r, ⟨h1, h2, h3⟩, rfl, rfl⟩)
      · exact ⟨hx, .inl hE⟩
      · exact ⟨mem_getRole2_nodes.mpr (.inr (.inl rfl)), .inr ⟨rfl, .inl rfl⟩⟩
      · exact ⟨h1, .inr ⟨rfl, .inr h3⟩⟩
      · -- the second half of `extra` is empty: nothing else matches the role `b`
        exact absurd (hb _ h3) h2
    · rintro ⟨hx, hE | ⟨rfl, rfl | hxa⟩⟩
      · exact .inl ⟨hx, hE⟩
      · exact .inr (.inl ⟨rfl, rfl⟩)
      · by_cases hxa' : x = a
        · exact .inr (.inl ⟨hxa', rfl⟩)
        · exact .inr (.inr (.inl ⟨x, ⟨hx, hxa', hxa⟩, rfl, rfl⟩))

theorem linked_iff {f : MatchFn} {L : List Link} {x y : Name}
    (hplain : ∀ a b, (a, b) ∈ L → ∀ n, f n b = true → n = b) :
    linked f L x y = true ↔ EStar f L x y := by
  unfold linked EStar
  simp only [List.any_eq_true, Bool.or_eq_true, Bool.and_eq_true, beq_iff_eq, bne_iff_ne, ne_eq]
  constructor
  · rintro ⟨⟨a, b⟩, hl, ((⟨rfl, h⟩ | ⟨⟨rfl, hne⟩, hf⟩) | ⟨h, hf⟩)⟩
    · exact ⟨a, hl, h.imp Eq.symm id⟩
    · exact absurd (hplain a _ hl y hf).symm hne
    · have := hplain a b hl y hf
      subst this
      exact ⟨a, hl, h.imp Eq.symm id⟩
  · rintro ⟨a, hl, h⟩
    exact ⟨(a, y), hl, Or.inl (Or.inl ⟨rfl, h.imp Eq.symm id⟩)⟩

theorem EStar_erase {m : MatchFn} {L : List Link} (hnd : L.Nodup) {a b x y : Name} (hab : (a, b) ∈ L) :
    EStar m L x y ↔ EStar m (L.erase (a, b)) x y ∨ (y = b ∧ (x = a ∨ m x a = true)) :=
  EStar_split (fun l => by rw [hnd.mem_erase_iff]; by_cases e : l = (a, b) <;> simp [e, hab]) x y

theorem delEdges_spec {t : RM} (hI : Inv t) {a b : Name} (hab : (a, b) ∈ t.allLinks) (ha : a ∈ t.nodes) :
    (t.delEdges (t.allLinks.erase (a, b)) a b).2 = none ∧
    ∀ x y, (x, y) ∈ (t.delEdges (t.allLinks.erase (a, b)) a b).1 ↔
      x ∈ t.nodes ∧ EStar t.mtch (t.allLinks.erase (a, b)) x y := by
  unfold RM.delEdges
  cases hmf : t.matchFn with
  | none =>
    have hedge : (a, b) ∈ t.edges := (hI.edges a b).mpr ⟨ha, a, hab, Or.inl rfl⟩
    simp only [List.contains_iff_mem.mpr hedge, ↓reduceIte, true_and]
    intro x y
    simp only [List.mem_filter, bne_iff_ne, ne_eq, hI.edges]
    rw [EStar_erase hI.nodup hab]
    simp only [mtch_none hmf, Bool.false_eq_true, or_false]
    constructor
    · rintro ⟨⟨hx, hE | ⟨rfl, rfl⟩⟩, hne⟩
      · exact ⟨hx, hE⟩
      · exact absurd rfl hne
    · rintro ⟨hx, hE⟩
      refine ⟨⟨hx, .inl hE⟩, fun he => ?_⟩
      -- without a matching function an effective edge is a stored link, and `(a, b)` is not among the rest
      obtain ⟨c, hc, hxc⟩ := hE
      simp only [Bool.false_eq_true, or_false] at hxc
      exact (hI.nodup.mem_erase_iff.mp (hxc ▸ hc)).1 he
  | some f =>
    -- an edge stays iff a remaining link gives it: `gone` asks `linked`, which is `EStar` of the rest (`linked_iff`).
    -- Under `plain` only the first disjunct of `gone` ever fires; the other two serve role-side patterns (F35).
    have hmf' := mtch_some hmf
    simp only [true_and]
    intro x y
    have hlk := @linked_iff f (t.allLinks.erase (a, b)) x y (by
      intro p q hpq; rw [← hmf']; exact hI.plain p q (hI.nodup.mem_erase_iff.mp hpq).2)
    simp only [List.mem_filter, hI.edges, Bool.not_eq_true', RM.gone]
    rw [EStar_erase hI.nodup hab, hmf']
    constructor
    · rintro ⟨⟨hx, hE⟩, hg⟩
      refine ⟨hx, ?_⟩
      rcases hE with hE | ⟨rfl, hxa⟩
      · exact hE
      · by_cases hl : linked f (t.allLinks.erase (a, y)) x y = true
        · exact hlk.mp hl
        · exfalso
          have hc : t.nodes.contains x = true := List.contains_iff_mem.mpr hx
          have hxa' : (x == a || f x a) = true := by
            rcases hxa with rfl | hxa <;> simp [*]
          simp [hxa', hl] at hg
          exact hg hx
    · rintro ⟨hx, hE⟩
      refine ⟨⟨hx, Or.inl hE⟩, ?_⟩
      simp [hlk.mpr hE]

theorem deleteLink_absent {s : RM} {a b : Name} (hab : (a, b) ∉ s.allLinks) : s.deleteLink a b = (s, none) := by
  simp [RM.deleteLink, hab]

theorem deleteLink_present {s : RM} {a b : Name} (hab : (a, b) ∈ s.allLinks) :
    s.deleteLink a b =
      ({ ((s.getRole a).getRole b) with
          allLinks := s.allLinks.erase (a, b),
          edges := (((s.getRole a).getRole b).delEdges (s.allLinks.erase (a, b)) a b).1 },
       (((s.getRole a).getRole b).delEdges (s.allLinks.erase (a, b)) a b).2) := by
  simp [RM.deleteLink, hab]

@[simp] theorem deleteLink_matchFn (s : RM) (a b : Name) : (s.deleteLink a b).1.matchFn = s.matchFn := by
  unfold RM.deleteLink; split <;> simp
@[simp] theorem deleteLink_maxLevel (s : RM) (a b : Name) : (s.deleteLink a b).1.maxLevel = s.maxLevel := by
  unfold RM.deleteLink; split <;> simp
@[simp] theorem deleteLink_mtch (s : RM) (a b : Name) : (s.deleteLink a b).1.mtch = s.mtch := by
  funext x y; simp [RM.mtch]

theorem deleteLink_inv {s : RM} (ht : Trans s.mtch) (h : Inv s) (a b : Name) :
    Inv (s.deleteLink a b).1 ∧ (s.deleteLink a b).2 = none ∧
    (s.deleteLink a b).1.matchFn = s.matchFn ∧ (s.deleteLink a b).1.maxLevel = s.maxLevel ∧
    ∀ l, l ∈ (s.deleteLink a b).1.allLinks ↔ l ∈ s.allLinks ∧ l ≠ (a, b) := by
  by_cases hab : (a, b) ∈ s.allLinks
  · have hI := getRole2_inv ht h a b
    have hL : ((s.getRole a).getRole b).allLinks = s.allLinks := by simp
    have hmem : ∀ l, l ∈ s.allLinks.erase (a, b) ↔ l ∈ s.allLinks ∧ l ≠ (a, b) := fun l => by
      rw [h.nodup.mem_erase_iff, and_comm]
    have hsp := delEdges_spec hI (hL ▸ hab) (mem_getRole2_nodes.mpr (.inr (.inl rfl)))
    rw [hL] at hsp
    rw [deleteLink_present hab]
    refine ⟨⟨h.nodup.erase _, ?_, ?_, hsp.2⟩, hsp.1, by simp, by simp, hmem⟩
    · intro x y hxy; exact hI.ends x y (hL ▸ ((hmem _).mp hxy).1)
    · intro x y hxy; exact hI.plain x y (hL ▸ ((hmem _).mp hxy).1)
  · rw [deleteLink_absent hab]
    exact ⟨h, rfl, rfl, rfl, fun l => ⟨fun hl => ⟨hl, fun he => hab (he ▸ hl)⟩, And.left⟩⟩

theorem path_edges_iff {t : RM} (hI : Inv t) {u r : Name} (hu : u ∈ t.nodes) (n : Nat) :
    Path t.edges u r n ↔ PathR (EStar t.mtch t.allLinks) u r n := by
  rw [path_iff_pathR]
  constructor
  · exact PathR.mono (fun a b hab => ((hI.edges a b).mp hab).2)
  · intro p
    induction p with
    | refl u => exact .refl u
    | @step x y z k he _ ih =>
      have hy : y ∈ t.nodes := by obtain ⟨a, hab, _⟩ := he; exact (hI.ends a y hab).2
      exact .step ((hI.edges x y).mpr ⟨hu, he⟩) (ih hy)

@[simp] theorem hasLink_fst (s : RM) (u r : Name) : (s.hasLink u r).1 = (s.getRole u).getRole r := rfl
@[simp] theorem getRoles_fst (s : RM) (n : Name) : (s.getRoles n).1 = s.getRole n := rfl
@[simp] theorem getUsers_fst (s : RM) (n : Name) : (s.getUsers n).1 = s.getRole n := rfl

/-- `has_link`, in every state: bounded reachability in the graph as it is after both names were looked up -/
theorem hasLink_snd (s : RM) (u r : Name) :
    (s.hasLink u r).2 = true ↔ ∃ n, n < s.maxLevel ∧ Path ((s.getRole u).getRole r).edges u r n := by
  show bfs noMatch ((s.getRole u).getRole r).edges r ((s.getRole u).getRole r).maxLevel [u] = true ↔ _
  simp only [bfs_iff, List.mem_singleton, exists_eq_left, getRole_maxLevel, noMatch, Bool.false_eq_true, or_false,
    exists_eq_right]

/-- state form of `C14.pattern_history`: `has_link` ⇔ a path of fewer than `max_hierarchy_level` effective edges -/
theorem hasLink_iff_pathR {s : RM} (ht : Trans s.mtch) (h : Inv s) (u r : Name) :
    (s.hasLink u r).2 = true ↔ ∃ n, n < s.maxLevel ∧ PathR (EStar s.mtch s.allLinks) u r n := by
  have hp := @path_edges_iff _ (getRole2_inv ht h u r) u r (mem_getRole2_nodes.mpr (.inr (.inl rfl)))
  simpa [hasLink_snd] using exists_congr fun n => and_congr_right fun _ => hp n

theorem getRoles_iff {s : RM} (ht : Trans s.mtch) (h : Inv s) (u r : Name) :
    r ∈ (s.getRoles u).2 ↔ EStar s.mtch s.allLinks u r := by
  show r ∈ succs (s.getRole u).edges u ↔ _
  rw [succs_mem, (getRole_inv ht h u).edges]
  simp [mem_getRole_nodes]

theorem getUsers_iff {s : RM} (ht : Trans s.mtch) (h : Inv s) (r u : Name) :
    u ∈ (s.getUsers r).2 ↔ (u ∈ s.nodes ∨ u = r) ∧ EStar s.mtch s.allLinks u r := by
  show u ∈ preds (s.getRole r).edges r ↔ _
  rw [mem_preds, (getRole_inv ht h r).edges]
  simp [mem_getRole_nodes]

theorem clear_inv (s : RM) : Inv s.clear := inv_of_empty rfl rfl

/-! ### managers whose matching function only relates equal names (none registered, or the equality the
domain managers install) -/

def NoPat (s : RM) : Prop := ∀ x y, s.mtch x y = true → x = y

theorem NoPat.trans {s : RM} (h : NoPat s) : Trans s.mtch := by
  intro n p a h1 h2; exact h n p h1 ▸ h2

theorem NoPat.plain {s : RM} (h : NoPat s) (b n : Name) : s.mtch n b = true → n = b := h n b

theorem EStar_noPat {s : RM} (h : NoPat s) (x y : Name) : EStar s.mtch s.allLinks x y ↔ (x, y) ∈ s.allLinks := by
  unfold EStar
  constructor
  · rintro ⟨a, hab, (rfl | hx)⟩
    · exact hab
    · exact h x a hx ▸ hab
  · intro hxy; exact ⟨x, hxy, Or.inl rfl⟩

@[simp] theorem getRole_edges_noPat {s : RM} (h : NoPat s) (n : Name) : (s.getRole n).edges = s.edges := by
  unfold RM.getRole
  split
  · rfl
  · rename_i hn
    have : (s.nodes.filter fun p => s.mtch n p) = [] := by
      rw [List.filter_eq_nil_iff]
      intro p hp hm
      exact hn (List.contains_iff_mem.mpr (h n p hm ▸ hp))
    simp [this]

theorem getRole_noPat {s : RM} (h : NoPat s) (n : Name) : NoPat (s.getRole n) := by
  intro x y; simpa using h x y

inductive Op
  | add (a b : Name) | del (a b : Name) | has (u r : Name) | roles (n : Name) | users (n : Name) | clear

def step (s : RM) : Op → RM × Option Err
  | .add a b => (s.addLink a b, none)
  | .del a b => s.deleteLink a b
  | .has u r => ((s.hasLink u r).1, none)
  | .roles n => ((s.getRoles n).1, none)
  | .users n => ((s.getUsers n).1, none)
  | .clear => (s.clear, none)

/-- run a history, going on after an error as a client that catches the exception would -/
def run (s : RM) : List Op → RM
  | [] => s
  | op :: ops => run (step s op).1 ops

def errors (s : RM) : List Op → List Err
  | [] => []
  | op :: ops => (match (step s op).2 with | some e => [e] | none => []) ++ errors (step s op).1 ops

/-- how one call changes whether the assignment `l` is in force -/
def upd (b : Bool) (op : Op) (l : Link) : Bool :=
  match op with
  | .add a r => if (a, r) == l then true else b
  | .del a r => if (a, r) == l then false else b
  | .clear => false
  | _ => b

/-- the assignments in force after a history: `l` is in force iff the last `add`/`delete`/`clear` that concerns it
    was an `add` -/
def inForce (ops : List Op) (l : Link) : Bool := ops.foldl (fun b op => upd b op l) false

def fresh (maxLevel : Nat) (mf : Option MatchFn) : RM := { maxLevel := maxLevel, matchFn := mf }

theorem fresh_inv (L : Nat) (mf : Option MatchFn) : Inv (fresh L mf) := inv_of_empty rfl rfl

@[simp] theorem clear_mtch (s : RM) : s.clear.mtch = s.mtch := rfl
@[simp] theorem clear_maxLevel (s : RM) : s.clear.maxLevel = s.maxLevel := rfl

/-- `hop`: the adds must respect "patterns on the user side" -/
theorem step_inv {s : RM} (ht : Trans s.mtch) (h : Inv s) (op : Op)
    (hop : ∀ a b, op = .add a b → ∀ n, s.mtch n b = true → n = b) :
    Inv (step s op).1 ∧ (step s op).2 = none ∧ (step s op).1.mtch = s.mtch ∧
    (step s op).1.maxLevel = s.maxLevel ∧
    ∀ l, l ∈ (step s op).1.allLinks ↔ upd (decide (l ∈ s.allLinks)) op l = true := by
  cases op with
  | add a b =>
    refine ⟨addLink_inv ht h a b (hop a b rfl), rfl, by simp [step], by simp [step], fun l => ?_⟩
    simp only [step, addLink_allLinks, mem_insertE, upd]
    grind
  | del a b =>
    obtain ⟨h1, h2, -, -, h5⟩ := deleteLink_inv ht h a b
    refine ⟨h1, h2, by simp [step], by simp [step], fun l => ?_⟩
    simp only [step, h5, upd]
    grind
  | has u r => exact ⟨getRole2_inv ht h u r, rfl, by simp [step], by simp [step], by simp [step, upd]⟩
  | roles n => exact ⟨getRole_inv ht h n, rfl, by simp [step], by simp [step], by simp [step, upd]⟩
  | users n => exact ⟨getRole_inv ht h n, rfl, by simp [step], by simp [step], by simp [step, upd]⟩
  | clear => exact ⟨clear_inv s, rfl, rfl, rfl, by simp [step, RM.clear, upd]⟩

/-- the adds of a history put patterns on the user side only: no other name matches an assigned role -/
def PlainRoles (m : MatchFn) (ops : List Op) : Prop :=
  ∀ a b, Op.add a b ∈ ops → ∀ n, m n b = true → n = b

theorem run_inv {s : RM} (ht : Trans s.mtch) (h : Inv s) (ops : List Op) (hops : PlainRoles s.mtch ops) :
    Inv (run s ops) ∧ errors s ops = [] ∧ (run s ops).mtch = s.mtch ∧ (run s ops).maxLevel = s.maxLevel ∧
    ∀ l, l ∈ (run s ops).allLinks ↔ ops.foldl (fun b op => upd b op l) (decide (l ∈ s.allLinks)) = true := by
  induction ops generalizing s with
  | nil => exact ⟨h, rfl, rfl, rfl, by simp [run]⟩
  | cons op ops ih =>
    obtain ⟨h1, h2, h3, h4, h5⟩ := step_inv ht h op (fun a b e => hops a b (by simp [e]))
    obtain ⟨i1, i2, i3, i4, i5⟩ := @ih (step s op).1 (h3 ▸ ht) h1
      (fun a b hab => h3 ▸ hops a b (List.mem_cons_of_mem _ hab))
    refine ⟨i1, by simp [errors, h2, i2], i3.trans h3, i4.trans h4, fun l => ?_⟩
    rw [show run s (op :: ops) = run (step s op).1 ops from rfl, i5, List.foldl_cons]
    congr 2
    rw [Bool.eq_iff_iff]; simp [h5]

theorem hasLink_edges_noPat {s : RM} (hp : NoPat s) (u r : Name) : (s.hasLink u r).1.edges = s.edges := by
  rw [hasLink_fst, getRole_edges_noPat (getRole_noPat hp u), getRole_edges_noPat hp]

/-- `has_link(u, r)` ⇔ `r` is reachable from `u` along the current edges by a path of fewer
    than `max_hierarchy_level` edges — every graph (cycles, self-loops, diamonds), every level, every state. -/
theorem hasLink_spec {s : RM} (hp : NoPat s) (u r : Name) :
    (s.hasLink u r).2 = true ↔ ∃ n, n < s.maxLevel ∧ Path s.edges u r n := by
  rw [hasLink_snd, ← hasLink_fst, hasLink_edges_noPat hp]

/-- every name holds itself (as soon as the level allows looking at the start node at all) -/
theorem hasLink_refl (s : RM) (u : Name) (hL : 0 < s.maxLevel) : (s.hasLink u u).2 = true :=
  (hasLink_snd s u u).mpr ⟨0, hL, .refl u⟩

/-- a role at the end of a path of exactly `max − 1` edges is held; a role all of
    whose paths have at least `max` edges is not -/
theorem hasLink_depth_bound {s : RM} (hp : NoPat s) (u r : Name) :
    (0 < s.maxLevel → Path s.edges u r (s.maxLevel - 1) → (s.hasLink u r).2 = true) ∧
    ((∀ n, Path s.edges u r n → s.maxLevel ≤ n) → (s.hasLink u r).2 = false) := by
  constructor
  · intro hL p
    exact (hasLink_spec hp u r).mpr ⟨_, by omega, p⟩
  · intro hall
    rw [Bool.eq_false_iff]
    intro ht
    obtain ⟨n, hn, p⟩ := (hasLink_spec hp u r).mp ht
    have := hall n p
    omega

/-- `get_roles` reports exactly the direct assignments -/
theorem getRoles_direct {s : RM} (hp : NoPat s) (u r : Name) : r ∈ (s.getRoles u).2 ↔ (u, r) ∈ s.edges := by
  show r ∈ succs (s.getRole u).edges u ↔ _
  rw [succs_mem, getRole_edges_noPat hp]

/-- `get_users` reports exactly the direct members -/
theorem getUsers_direct {s : RM} (hp : NoPat s) (r u : Name) : u ∈ (s.getUsers r).2 ↔ (u, r) ∈ s.edges := by
  show u ∈ preds (s.getRole r).edges r ↔ _
  rw [mem_preds, getRole_edges_noPat hp]

/-- single manager: queries create nodes, never edges or stored links -/
theorem query_pure {s : RM} (hp : NoPat s) (u r : Name) :
    ((s.hasLink u r).1.edges = s.edges ∧ (s.hasLink u r).1.allLinks = s.allLinks) ∧
    ((s.getRoles u).1.edges = s.edges ∧ (s.getRoles u).1.allLinks = s.allLinks) ∧
    ((s.getUsers u).1.edges = s.edges ∧ (s.getUsers u).1.allLinks = s.allLinks) :=
  ⟨⟨hasLink_edges_noPat hp u r, by simp⟩, ⟨by simp [hp], by simp⟩, ⟨by simp [hp], by simp⟩⟩

theorem fresh_noPat_none (L : Nat) : NoPat (fresh L none) := by intro x y h; simp [fresh, RM.mtch] at h
theorem fresh_noPat_eq (L : Nat) : NoPat (fresh L (some fun a b => a == b)) := by
  intro x y h; simpa [fresh, RM.mtch] using h

theorem edges_iff_links {s : RM} (hp : NoPat s) (h : Inv s) (l : Link) : l ∈ s.edges ↔ l ∈ s.allLinks := by
  obtain ⟨x, y⟩ := l
  rw [h.edges, EStar_noPat hp]
  exact ⟨And.right, fun hl => ⟨(h.ends x y hl).1, hl⟩⟩

/-- After ANY history of adds, deletes, queries and clears on a fresh manager — in every
    order, with repetitions — no call has raised and the graph consists exactly of the assignments in force
    (those whose last add/delete/clear was an add). -/
theorem history_edges (L : Nat) (mf : Option MatchFn) (hp : NoPat (fresh L mf)) (ops : List Op) :
    errors (fresh L mf) ops = [] ∧ ∀ l, l ∈ (run (fresh L mf) ops).edges ↔ inForce ops l = true := by
  obtain ⟨h1, h2, h3, _, h5⟩ := run_inv hp.trans (fresh_inv L mf) ops (fun a b _ n hn => hp n b hn)
  refine ⟨h2, fun l => ?_⟩
  have hp' : NoPat (run (fresh L mf) ops) := by intro x y; rw [h3]; exact hp x y
  rw [edges_iff_links hp' h1, h5]
  simp [inForce, fresh]

/-- after any history `has_link` is bounded reachability over the assignments in force -/
theorem history_hasLink (L : Nat) (mf : Option MatchFn) (hp : NoPat (fresh L mf)) (ops : List Op) (u r : Name) :
    ((run (fresh L mf) ops).hasLink u r).2 = true ↔
      ∃ n, n < L ∧ PathR (fun a b => inForce ops (a, b) = true) u r n := by
  obtain ⟨_, _, h3, h4, _⟩ := run_inv hp.trans (fresh_inv L mf) ops (fun a b _ n hn => hp n b hn)
  have hp' : NoPat (run (fresh L mf) ops) := by intro x y; rw [h3]; exact hp x y
  rw [hasLink_spec hp', h4]
  simp only [path_iff_pathR, PathR.congr fun a b => (history_edges L mf hp ops).2 (a, b)]
  rfl

example : NoPat (fresh 10 none) := fresh_noPat_none 10
example : (((fresh 10 none).addLink "a" "b").hasLink "a" "b").2 = true := by decide +kernel
example : Path ((fresh 3 none).addLink "a" "b" |>.addLink "b" "c").edges "a" "c" (3 - 1) :=
  .step (v := "b") (by decide) (.step (v := "c") (by decide) (.refl _))
example : (run (fresh 2 none) [.add "a" "b", .add "b" "c", .add "a" "b", .del "a" "b", .has "a" "c"]).edges = [("b", "c")] := by
  decide +kernel
example : inForce [.add "a" "b", .add "b" "c", .add "a" "b", .del "a" "b"] ("a", "b") = false := by decide +kernel
/-- the bound is exact: a chain of 2 edges is followed at level 3 and not at level 2 -/
example : (((fresh 3 none).addLink "a" "b" |>.addLink "b" "c").hasLink "a" "c").2 = true ∧
          (((fresh 2 none).addLink "a" "b" |>.addLink "b" "c").hasLink "a" "c").2 = false := by decide +kernel

theorem passes_getRole (s : RM) (n d : Name) : (s.getRole n).passes d = s.passes d := by
  funext e; simp [RM.passes]

theorem activeEdges_getRole {s : RM} (hp : NoPat s) (n d : Name) : (s.getRole n).activeEdges d = s.activeEdges d := by
  unfold RM.activeEdges
  rw [passes_getRole, getRole_edges_noPat hp]

theorem mem_activeEdges (s : RM) (d : Name) (e : Link) :
    e ∈ s.activeEdges d ↔ e ∈ s.edges ∧
      (∀ fn, s.condFns.lookup (e.1, e.2, d) = some fn → fn ((s.condParams.lookup (e.1, e.2, d)).getD []) = true) := by
  unfold RM.activeEdges RM.passes
  rw [List.mem_filter]
  cases h : s.condFns.lookup (e.1, e.2, d) <;> simp

/-- the conditional manager in every state and under any matching function, over the active edges of the graph as it
    is after both names were looked up (the shortcut of `has_link` is the path of no edge) -/
theorem condHasLink_snd (s : RM) (u r d : Name) :
    (s.condHasLink u r d).2 = true ↔ ∃ n, n ≤ s.maxLevel ∧
      ∃ x, Path (((s.getRole u).getRole r).activeEdges d) u x n ∧ (x = r ∨ s.mtch x r = true) := by
  unfold RM.condHasLink
  split
  · rename_i h
    exact iff_of_true rfl ⟨0, Nat.zero_le _, u, .refl u, by simpa using h⟩
  · simp only [bfs_iff, List.mem_singleton, exists_eq_left, getRole_maxLevel, getRole_mtch, Nat.lt_succ_iff]

/-- the conditional manager answers true ⇔ the names are equal or there is a path of AT
    MOST `max_hierarchy_level` edges (one more than the plain manager follows) each of whose conditions — if
    it carries one — holds on its stored parameters -/
theorem conditional_iff {s : RM} (hp : NoPat s) (u r d : Name) :
    (s.condHasLink u r d).2 = true ↔ u = r ∨ ∃ n, n ≤ s.maxLevel ∧ Path (s.activeEdges d) u r n := by
  rw [condHasLink_snd, activeEdges_getRole (getRole_noPat hp u), activeEdges_getRole hp]
  simp only [or_iff_left_of_imp (hp _ r), exists_eq_right]
  exact ⟨Or.inr, fun h => h.elim (fun e => ⟨0, Nat.zero_le _, e ▸ .refl u⟩) id⟩

/-- all conditions true = the unconditional graph; a false condition cuts its edge -/
example : let s := ((fresh 10 none).addLink "a" "b" |>.addLink "b" "c" |>.addCondFn "a" "b" "" (fun ps => ps.head? == some "T"))
    ((s.setCondParams "a" "b" "" ["T"]).condHasLink "a" "c" "").2 = true ∧
    ((s.setCondParams "a" "b" "" ["F"]).condHasLink "a" "c" "").2 = false := by decide +kernel
/-- the conditional search follows one edge more than the plain one -/
example : let s := ((fresh 1 none).addLink "a" "b")
    (s.condHasLink "a" "b" "").2 = true ∧ (s.hasLink "a" "b").2 = false := by decide +kernel

/-! ### a reload keeps the registered conditions (`ConditionalRoleManager.clear`, F40) -/

theorem condClear_inv (s : RM) : Inv s.condClear := inv_of_empty rfl rfl

@[simp] theorem condClear_condFns (s : RM) : s.condClear.condFns = s.condFns := rfl
@[simp] theorem condClear_edges (s : RM) : s.condClear.edges = [] := rfl
@[simp] theorem condClear_allLinks (s : RM) : s.condClear.allLinks = [] := rfl
@[simp] theorem addLink_condFns (s : RM) (a b : Name) : (s.addLink a b).condFns = s.condFns := by
  simp [RM.addLink]
@[simp] theorem setCondParams_condFns (s : RM) (a b d : Name) (ps : List String) :
    (s.setCondParams a b d ps).condFns = s.condFns := by
  simp [RM.setCondParams]

theorem lookup_assocSet_self {κ β} [BEq κ] [LawfulBEq κ] (k : κ) (v : β) (l : List (κ × β)) :
    (assocSet k v l).lookup k = some v := by
  fun_induction assocSet k v l <;> grind

/-- Whatever the state, after `clear` - the first step of every reload, rebuild and
    rollback - an assignment that is built again with parameters `ps` is followed exactly when the function that
    was registered for it BEFORE the clear returns true on `ps`: a reload cannot turn a conditional assignment
    into an unconditional one. `t` is any state with the functions `clear` leaves: by `condClear_foldl_addLink` the
    state after `clear` and any number of rebuilt links is one. -/
theorem reload_keeps_conditions (s : RM) (a b d : Name) (ps : List String) (fn : CondFn)
    (h : s.condFns.lookup (a, b, d) = some fn) (t : RM) (ht : t.condFns = s.condClear.condFns) :
    ((t.addLink a b).setCondParams a b d ps).passes d (a, b) = fn ps := by
  unfold RM.passes
  simp only [setCondParams_condFns, addLink_condFns, ht, condClear_condFns, h]
  simp [RM.setCondParams, lookup_assocSet_self]

theorem condClear_foldl_addLink (s : RM) (ls : List Link) :
    (ls.foldl (fun t l => t.addLink l.1 l.2) s.condClear).condFns = s.condFns := by
  suffices ∀ t : RM, (ls.foldl (fun t l => t.addLink l.1 l.2) t).condFns = t.condFns from by
    rw [this]; rfl
  induction ls with
  | nil => intro t; rfl
  | cons l rest ih => intro t; simp [List.foldl, ih]

example : let s := ((fresh 10 none).addLink "a" "b" |>.addCondFn "a" "b" "" (fun ps => ps.head? == some "T")
                      |>.setCondParams "a" "b" "" ["F"])
    (s.condHasLink "a" "b" "").2 = false ∧
    (((s.condClear.addLink "a" "b").setCondParams "a" "b" "" ["F"]).condHasLink "a" "b" "").2 = false ∧
    (((s.condClear.addLink "a" "b").setCondParams "a" "b" "" ["T"]).condHasLink "a" "b" "").2 = true := by decide +kernel

/-! ## coherent managers

What a `DomainManager` needs to know of a `RoleManager` it built, cached and kept updating: its level, its
function, that it satisfies `Inv`, and which links it stores.  Its answers are a function of these alone
(`Coh.hasLink_iff`, `Coh.getRoles_iff`), so a cached manager and a rebuilt one cannot be told apart. -/

/-- `rm` is a coherent manager of level `L` under the matching function `f` storing exactly the links in `P`.
    A `def`, the body of `DInv.cache` word for word, so that `h.cache d rm hm : Coh …` by unfolding -/
def Coh (L : Nat) (f : MatchFn) (P : Link → Prop) (rm : RM) : Prop :=
  rm.maxLevel = L ∧ rm.matchFn = some f ∧ Inv rm ∧ ∀ l, l ∈ rm.allLinks ↔ P l

namespace Coh
variable {L : Nat} {f : MatchFn} {P Q : Link → Prop} {rm : RM}

theorem inv (h : Coh L f P rm) : Inv rm := h.2.2.1
theorem links (h : Coh L f P rm) (l : Link) : l ∈ rm.allLinks ↔ P l := h.2.2.2 l
theorem mtch (h : Coh L f P rm) : rm.mtch = f := mtch_some h.2.1

theorem congr (hPQ : ∀ l, P l ↔ Q l) (h : Coh L f P rm) : Coh L f Q rm :=
  ⟨h.1, h.2.1, h.inv, fun l => (h.links l).trans (hPQ l)⟩

theorem getRole (ht : Trans f) (h : Coh L f P rm) (n : Name) : Coh L f P (rm.getRole n) :=
  ⟨by simp [h.1], by simp [h.2.1], getRole_inv (h.mtch ▸ ht) h.inv n, by simpa using h.links⟩

theorem addLink (ht : Trans f) (h : Coh L f P rm) (a b : Name) (hb : ∀ n, f n b = true → n = b) :
    Coh L f (fun l => P l ∨ l = (a, b)) (rm.addLink a b) :=
  ⟨by simp [h.1], by simp [h.2.1], addLink_inv (h.mtch ▸ ht) h.inv a b (h.mtch ▸ hb),
   fun l => by rw [addLink_allLinks, mem_insertE, h.links, or_comm]⟩

theorem deleteLink (ht : Trans f) (h : Coh L f P rm) (a b : Name) :
    (rm.deleteLink a b).2 = none ∧ Coh L f (fun l => P l ∧ l ≠ (a, b)) (rm.deleteLink a b).1 := by
  obtain ⟨i1, i2, -, -, i5⟩ := deleteLink_inv (h.mtch ▸ ht) h.inv a b
  exact ⟨i2, by simp [h.1], by simp [h.2.1], i1, fun l => by rw [i5, h.links]⟩

theorem foldl_addLink (ht : Trans f) (ls : List Link) (hpl : ∀ l ∈ ls, ∀ n, f n l.2 = true → n = l.2)
    (h : Coh L f P rm) : Coh L f (fun l => P l ∨ l ∈ ls) (ls.foldl (fun t l => t.addLink l.1 l.2) rm) := by
  induction ls generalizing rm P with
  | nil => simpa using h
  | cons x ls ih =>
    refine (ih (fun l hl => hpl l (List.mem_cons_of_mem _ hl)) (h.addLink ht x.1 x.2 (hpl x List.mem_cons_self))).congr
      fun l => ?_
    simp only [List.mem_cons, or_assoc]

theorem EStar_iff (h : Coh L f P rm) (x y : Name) :
    EStar rm.mtch rm.allLinks x y ↔ ∃ a, P (a, y) ∧ (x = a ∨ f x a = true) := by
  simp only [EStar, h.links, h.mtch]

theorem hasLink_iff (ht : Trans f) (h : Coh L f P rm) (u r : Name) :
    (rm.hasLink u r).2 = true ↔ ∃ n, n < L ∧ PathR (fun x y => ∃ a, P (a, y) ∧ (x = a ∨ f x a = true)) u r n := by
  rw [hasLink_iff_pathR (h.mtch ▸ ht) h.inv, h.1]
  simp only [PathR.congr h.EStar_iff]

theorem getRoles_iff (ht : Trans f) (h : Coh L f P rm) (u r : Name) :
    r ∈ (rm.getRoles u).2 ↔ ∃ a, P (a, r) ∧ (u = a ∨ f u a = true) := by
  rw [C03.getRoles_iff (h.mtch ▸ ht) h.inv, h.EStar_iff]

theorem getUsers_iff (ht : Trans f) (h : Coh L f P rm) (r u : Name) :
    u ∈ (rm.getUsers r).2 ↔ (u ∈ rm.nodes ∨ u = r) ∧ ∃ a, P (a, r) ∧ (u = a ∨ f u a = true) := by
  rw [C03.getUsers_iff (h.mtch ▸ ht) h.inv, h.EStar_iff]

end Coh

theorem coh_of_empty {f : MatchFn} {rm : RM} (hm : rm.matchFn = some f) (hl : rm.allLinks = []) (he : rm.edges = []) :
    Coh rm.maxLevel f (fun _ => False) rm :=
  ⟨rfl, hm, inv_of_empty hl he, by simp [hl]⟩

/-- `add_matching_func` on a manager that already holds links rebuilds the graph from the link store: the
    result satisfies the invariant for the NEW function (so `hasLink_iff_pathR` applies to it) and stores the
    same links -/
theorem addMatchingFunc_inv (s : RM) (f : MatchFn) (ht : Trans f)
    (hpl : ∀ l ∈ s.allLinks, ∀ n, f n l.2 = true → n = l.2) :
    Inv (s.addMatchingFunc f) ∧ (s.addMatchingFunc f).matchFn = some f ∧
    (s.addMatchingFunc f).maxLevel = s.maxLevel ∧ ∀ l, l ∈ (s.addMatchingFunc f).allLinks ↔ l ∈ s.allLinks := by
  obtain ⟨i1, i2, i3, i4⟩ :=
    (coh_of_empty (rm := RM.clear { s with matchFn := some f }) rfl rfl rfl).foldl_addLink ht s.allLinks hpl
  exact ⟨i3, i2, i1, fun l => (i4 l).trans (by simp)⟩

/-! ## DomainManager: per-domain stores, lazily built caches -/

section assoc
variable {β : Type}

theorem nodup_keys_append {l : List (Name × β)} (hn : (l.map (·.1)).Nodup) {k : Name} (hk : l.lookup k = none)
    (v : β) : ((l ++ [(k, v)]).map (·.1)).Nodup := by
  rw [List.map_append]
  exact nodup_snoc hn (lookup_eq_none_iff_keys.mp hk)

theorem map_keys (l : List (Name × β)) (f : Name × β → Name × β) (hf : ∀ e, (f e).1 = e.1) :
    (l.map f).map (·.1) = l.map (·.1) := by
  rw [List.map_map]; apply List.map_congr_left; intro e _; exact hf e

theorem mem_map_at {p : Name → Bool} {g : β → β} {l : List (Name × β)} {k : Name} {v' : β} :
    (k, v') ∈ l.map (fun e => if p e.1 then (e.1, g e.2) else e) ↔ ∃ v, (k, v) ∈ l ∧ v' = if p k then g v else v := by
  simp only [List.mem_map]
  constructor
  · rintro ⟨⟨k0, v⟩, hmem, he⟩
    split at he
    · next hp =>
      obtain ⟨rfl, rfl⟩ := Prod.mk.inj he
      exact ⟨v, hmem, (if_pos hp).symm⟩
    · next hp =>
      obtain ⟨rfl, rfl⟩ := Prod.mk.inj he
      exact ⟨v, hmem, (if_neg hp).symm⟩
  · rintro ⟨v, hmem, rfl⟩
    exact ⟨(k, v), hmem, by split <;> rfl⟩

theorem assocPut_keys (k : Name) (v : β) (l : List (Name × β)) : (assocPut k v l).map (·.1) = l.map (·.1) :=
  map_keys _ _ fun e => by grind

theorem mem_assocPut {k : Name} {v : β} {l : List (Name × β)} {e : Name × β} (h : e ∈ assocPut k v l) :
    e = (k, v) ∨ e ∈ l := by
  unfold assocPut at h
  grind

end assoc

def _root_.Casbin.RM.DM.recorded (s : DM) (d : Name) (l : Link) : Prop := ∃ ls, (d, ls) ∈ s.allLinks ∧ l ∈ ls

/-- the store of domain `d'` applies to queries in domain `d`: its own, or — under a domain matching function —
    a recorded domain pattern that `d` matches -/
def _root_.Casbin.RM.DM.covers (s : DM) (d d' : Name) : Prop := d' = d ∨ ∃ dm, s.dmatchFn = some dm ∧ dm d d' = true

/-- the assignments that apply in domain `d` -/
def _root_.Casbin.RM.DM.eff (s : DM) (d : Name) (l : Link) : Prop := ∃ d', s.covers d d' ∧ s.recorded d' l

theorem mem_linksOf {s : DM} (hk : (s.allLinks.map (·.1)).Nodup) {d : Name} {l : Link} :
    l ∈ s.linksOf d ↔ s.recorded d l := by
  unfold DM.linksOf DM.recorded
  constructor
  · intro h
    cases hl : s.allLinks.lookup d with
    | none => simp [hl] at h
    | some ls => exact ⟨ls, (lookup_eq_some_iff_mem hk).mp hl, by simpa [hl] using h⟩
  · rintro ⟨ls, hls, hl⟩
    simp [(lookup_eq_some_iff_mem hk).mpr hls, hl]

theorem mem_effLinks {s : DM} (hk : (s.allLinks.map (·.1)).Nodup) {d : Name} {l : Link} :
    l ∈ s.effLinks d ↔ s.eff d l := by
  unfold DM.effLinks DM.eff DM.covers
  cases hdm : s.dmatchFn with
  | none => simp [mem_linksOf hk]
  | some dm =>
    simp only [List.mem_append, mem_linksOf hk, List.mem_flatMap, List.mem_filter, Bool.and_eq_true, bne_iff_ne,
      ne_eq, Option.some.injEq]
    constructor
    · rintro (h | ⟨⟨d', ls⟩, ⟨hmem, hne, hm⟩, hl⟩)
      · exact ⟨d, Or.inl rfl, h⟩
      · exact ⟨d', Or.inr ⟨dm, rfl, hm⟩, ls, hmem, hl⟩
    · rintro ⟨d', (rfl | ⟨dm', rfl, hm⟩), hrec⟩
      · exact Or.inl hrec
      · by_cases hdd : d = d'
        · exact Or.inl (hdd ▸ hrec)
        · obtain ⟨ls, hmem, hl⟩ := hrec
          exact Or.inr ⟨(d', ls), ⟨hmem, hdd, hm⟩, hl⟩

/-- Cache coherence (`cache`): every cached manager is a coherent `RoleManager` (`Coh`) over exactly the assignments
    that apply in its domain. The hypotheses on the name matching function are carried along (`trans`, `plain`);
    NOTHING is assumed of the domain matching function (F36: a domain's own cached manager is always among the
    affected ones). -/
structure DInv (s : DM) : Prop where
  keys : (s.allLinks.map (·.1)).Nodup
  ckeys : (s.rmMap.map (·.1)).Nodup
  stores : ∀ d ls, (d, ls) ∈ s.allLinks → ls.Nodup
  trans : Trans s.matchFn
  plain : ∀ d l, s.recorded d l → ∀ n, s.matchFn n l.2 = true → n = l.2
  cache : ∀ d rm, (d, rm) ∈ s.rmMap →
    rm.maxLevel = s.maxLevel ∧ rm.matchFn = some s.matchFn ∧ Inv rm ∧ ∀ l, l ∈ rm.allLinks ↔ s.eff d l

theorem build_eq (s : DM) (d : Name) :
    s.build d = (s.effLinks d).foldl (fun t l => t.addLink l.1 l.2) (fresh s.maxLevel (some s.matchFn)) := rfl

theorem build_spec {s : DM} (h : DInv s) (d : Name) : Coh s.maxLevel s.matchFn (s.eff d) (s.build d) := by
  rw [build_eq]
  refine ((coh_of_empty rfl rfl rfl).foldl_addLink h.trans (s.effLinks d) fun l hl => ?_).congr fun l => ?_
  · obtain ⟨d', _, hrec⟩ := (mem_effLinks h.keys).mp hl
    exact h.plain d' l hrec
  · simp [mem_effLinks h.keys]

theorem eff_congr {s s' : DM} (h1 : s'.allLinks = s.allLinks) (h2 : s'.dmatchFn = s.dmatchFn) : s'.eff = s.eff := by
  funext d l; simp only [DM.eff, DM.covers, DM.recorded, h1, h2]

theorem eff_none {s : DM} (hdm : s.dmatchFn = none) (d : Name) (l : Link) : s.eff d l ↔ s.recorded d l := by
  simp [DM.eff, DM.covers, hdm]

theorem recorded_of_allLinks {s s' : DM} (h : s'.allLinks = s.allLinks) : s'.recorded = s.recorded := by
  funext d l; simp only [DM.recorded, h]

/-- `_get_role_manager`: a cache miss builds a coherent manager from the store; nothing else changes -/
theorem getRM_spec {s : DM} (h : DInv s) (d : Name) :
    DInv (s.getRM d).1 ∧ (s.getRM d).1.rmMap.lookup d = some (s.getRM d).2 ∧
    (s.getRM d).1.allLinks = s.allLinks ∧ (s.getRM d).1.dmatchFn = s.dmatchFn ∧
    (s.getRM d).1.matchFn = s.matchFn ∧ (s.getRM d).1.maxLevel = s.maxLevel := by
  unfold DM.getRM
  cases hl : s.rmMap.lookup d with
  | some rm => exact ⟨h, hl, rfl, rfl, rfl, rfl⟩
  | none =>
    refine ⟨⟨h.keys, nodup_keys_append h.ckeys hl _, h.stores, h.trans, h.plain, fun d' rm' hmem => ?_⟩,
      by simp [List.lookup_append, hl], rfl, rfl, rfl, rfl⟩
    rcases List.mem_append.mp hmem with hm | hm
    · exact h.cache d' rm' hm
    · obtain ⟨rfl, rfl⟩ := Prod.mk.inj (List.mem_singleton.mp hm)
      exact build_spec h d'

theorem getRM_coh {s : DM} (h : DInv s) (d : Name) : Coh s.maxLevel s.matchFn (s.eff d) (s.getRM d).2 := by
  obtain ⟨g1, g2, g3, g4, g5, g6⟩ := getRM_spec h d
  have := g1.cache d _ ((lookup_eq_some_iff_mem g1.ckeys).mp g2)
  rwa [g6, g5, eff_congr g3 g4] at this

/-- a query in domain `d` puts back the manager it asked, which has seen more names and is otherwise the same -/
theorem query_inv {s : DM} (h : DInv s) (d : Name) {rm : RM} (hrm : Coh s.maxLevel s.matchFn (s.eff d) rm) :
    DInv { (s.getRM d).1 with rmMap := assocPut d rm (s.getRM d).1.rmMap } := by
  obtain ⟨g1, -, g3, g4, g5, g6⟩ := getRM_spec h d
  rw [← g6, ← g5, ← eff_congr g3 g4] at hrm
  refine ⟨g1.keys, (assocPut_keys ..).symm ▸ g1.ckeys, g1.stores, g1.trans, g1.plain, fun d' rm' hmem => ?_⟩
  rcases mem_assocPut hmem with he | he
  · obtain ⟨rfl, rfl⟩ := Prod.mk.inj he; exact hrm
  · exact g1.cache d' rm' he

theorem EStar_eff (s : DM) (d x y : Name) :
    (∃ a, s.eff d (a, y) ∧ (x = a ∨ s.matchFn x a = true)) ↔
      ∃ a d', s.covers d d' ∧ s.recorded d' (a, y) ∧ (x = a ∨ s.matchFn x a = true) :=
  ⟨fun ⟨a, ⟨d', hc, hr⟩, hx⟩ => ⟨a, d', hc, hr, hx⟩, fun ⟨a, d', hc, hr, hx⟩ => ⟨a, ⟨d', hc, hr⟩, hx⟩⟩

theorem EStar_effLinks {s : DM} (h : DInv s) (d x y : Name) :
    EStar s.matchFn (s.effLinks d) x y ↔
      ∃ a d', s.covers d d' ∧ s.recorded d' (a, y) ∧ (x = a ∨ s.matchFn x a = true) := by
  simp only [EStar, mem_effLinks h.keys, EStar_eff]

/-- the answers of a coherent domain manager, cached or not: bounded reachability over the effective edges of the
    queried domain (`dm_getRoles_iff`: the direct roles are those edges) -/
theorem dm_hasLink_iff {s : DM} (h : DInv s) (u r d : Name) :
    (s.hasLink u r d).2 = true ↔ ∃ n, n < s.maxLevel ∧
      PathR (fun x y => ∃ a d', s.covers d d' ∧ s.recorded d' (a, y) ∧ (x = a ∨ s.matchFn x a = true)) u r n := by
  simp only [← PathR.congr (EStar_eff s d)]
  exact (getRM_coh h d).hasLink_iff h.trans u r

theorem dm_getRoles_iff {s : DM} (h : DInv s) (n d r : Name) :
    r ∈ (s.getRoles n d).2 ↔ ∃ a d', s.covers d d' ∧ s.recorded d' (a, r) ∧ (n = a ∨ s.matchFn n a = true) :=
  ((getRM_coh h d).getRoles_iff h.trans n r).trans (EStar_eff s d n r)

/-- State form of `domain_scoped` / `C14.domain_pattern_iff`. In every coherent state `has_link(u, r, d)` ⇔ `r` is
    reachable from `u` in fewer than `max_hierarchy_level` effective edges over the assignments that apply in
    `d` (`mem_effLinks`: recorded for `d`, or for a domain pattern that `d` matches) — whether or not the
    domain had been queried before; and the query keeps the state coherent and the stores untouched. -/
theorem dm_hasLink_spec {s : DM} (h : DInv s) (u r d : Name) :
    ((s.hasLink u r d).2 = true ↔
      ∃ n, n < s.maxLevel ∧ PathR (EStar s.matchFn (s.effLinks d)) u r n) ∧
    DInv (s.hasLink u r d).1 ∧ (s.hasLink u r d).1.allLinks = s.allLinks ∧
    (s.hasLink u r d).1.dmatchFn = s.dmatchFn ∧ (s.hasLink u r d).1.matchFn = s.matchFn ∧
    (s.hasLink u r d).1.maxLevel = s.maxLevel := by
  have hc := getRM_coh h d
  refine ⟨?_, query_inv h d ((hc.getRole h.trans u).getRole h.trans r), (getRM_spec h d).2.2⟩
  simp only [PathR.congr (EStar_effLinks h d)]
  exact dm_hasLink_iff h u r d

theorem dm_getRoles_spec {s : DM} (h : DInv s) (n d : Name) :
    (∀ r, r ∈ (s.getRoles n d).2 ↔ EStar s.matchFn (s.effLinks d) n r) ∧
    DInv (s.getRoles n d).1 ∧ (s.getRoles n d).1.allLinks = s.allLinks ∧
    (s.getRoles n d).1.dmatchFn = s.dmatchFn ∧ (s.getRoles n d).1.matchFn = s.matchFn ∧
    (s.getRoles n d).1.maxLevel = s.maxLevel := by
  have hc := getRM_coh h d
  refine ⟨fun r => ?_, query_inv h d (hc.getRole h.trans n), (getRM_spec h d).2.2⟩
  rw [EStar_effLinks h]
  exact dm_getRoles_iff h n d r

theorem dm_getUsers_inv {s : DM} (h : DInv s) (n d : Name) :
    DInv (s.getUsers n d).1 ∧ (s.getUsers n d).1.allLinks = s.allLinks ∧
    (s.getUsers n d).1.dmatchFn = s.dmatchFn ∧ (s.getUsers n d).1.matchFn = s.matchFn ∧
    (s.getUsers n d).1.maxLevel = s.maxLevel :=
  ⟨query_inv h d ((getRM_coh h d).getRole h.trans n), (getRM_spec h d).2.2⟩

/-- `hnp`: under a name pattern `get_users` lists only the matching names the manager has met so far
    (`Coh.getUsers_iff` mentions `rm.nodes`; `C14.dm_getUsers_pattern` says what remains true) -/
theorem dm_getUsers_spec {s : DM} (h : DInv s) (hnp : ∀ x y, s.matchFn x y = true → x = y) (n d : Name) :
    (∀ u, u ∈ (s.getUsers n d).2 ↔ (u, n) ∈ s.effLinks d) ∧
    DInv (s.getUsers n d).1 ∧ (s.getUsers n d).1.allLinks = s.allLinks ∧
    (s.getUsers n d).1.dmatchFn = s.dmatchFn ∧ (s.getUsers n d).1.matchFn = s.matchFn ∧
    (s.getUsers n d).1.maxLevel = s.maxLevel := by
  have hc := getRM_coh h d
  have hp : NoPat (s.getRM d).2 := by intro x y; rw [hc.mtch]; exact hnp x y
  refine ⟨fun u => ?_, dm_getUsers_inv h n d⟩
  show u ∈ ((s.getRM d).2.getUsers n).2 ↔ _
  rw [getUsers_direct hp, edges_iff_links hp hc.inv, hc.links, mem_effLinks h.keys]

@[simp] theorem touch_matchFn (s : DM) (d : Name) : (s.touch d).matchFn = s.matchFn := by unfold DM.touch; split <;> rfl
@[simp] theorem touch_dmatchFn (s : DM) (d : Name) : (s.touch d).dmatchFn = s.dmatchFn := by unfold DM.touch; split <;> rfl
@[simp] theorem touch_maxLevel (s : DM) (d : Name) : (s.touch d).maxLevel = s.maxLevel := by unfold DM.touch; split <;> rfl
@[simp] theorem touch_rmMap (s : DM) (d : Name) : (s.touch d).rmMap = s.rmMap := by unfold DM.touch; split <;> rfl
@[simp] theorem touch_affected (s : DM) (d : Name) : (s.touch d).affected = s.affected := by
  funext d0 d'; simp only [DM.affected, touch_dmatchFn]

theorem touch_allLinks (s : DM) (d : Name) :
    (s.touch d).allLinks = match s.allLinks.lookup d with | some _ => s.allLinks | none => s.allLinks ++ [(d, [])] := by
  unfold DM.touch; cases s.allLinks.lookup d <;> rfl

theorem touch_keys_mem (s : DM) (d : Name) : d ∈ (s.touch d).allLinks.map (·.1) := by
  rw [touch_allLinks]
  cases h : s.allLinks.lookup d with
  | none => simp
  | some ls => exact Decidable.byContradiction fun hn => by simp [lookup_eq_none_iff_keys.mpr hn] at h

@[simp] theorem touch_recorded (s : DM) (d : Name) : (s.touch d).recorded = s.recorded := by
  funext d' l
  simp only [DM.recorded, touch_allLinks]
  cases s.allLinks.lookup d
  · simp [or_and_right, exists_or]  -- the new entry holds no link
  · rfl

@[simp] theorem touch_eff (s : DM) (d : Name) : (s.touch d).eff = s.eff := by
  funext d0 l; simp only [DM.eff, DM.covers, touch_recorded, touch_dmatchFn]

theorem touch_inv {s : DM} (h : DInv s) (d : Name) : DInv (s.touch d) := by
  refine ⟨?_, touch_rmMap s d ▸ h.ckeys, ?_, touch_matchFn s d ▸ h.trans, ?_, ?_⟩
  · rw [touch_allLinks]
    cases hl : s.allLinks.lookup d
    · exact nodup_keys_append h.keys hl _
    · exact h.keys
  · -- the new entry is empty: whatever is in a store of `touch` was recorded before
    intro d' ls hmem
    rw [touch_allLinks] at hmem
    cases hl : s.allLinks.lookup d <;> rw [hl] at hmem
    · rcases List.mem_append.mp hmem with hm | hm
      · exact h.stores d' ls hm
      · rw [(Prod.mk.inj (List.mem_singleton.mp hm)).2]; exact List.nodup_nil
    · exact h.stores d' ls hmem
  · simp only [touch_recorded, touch_matchFn]; exact h.plain
  · simp only [touch_rmMap, touch_maxLevel, touch_matchFn, touch_eff]; exact h.cache

/-- the store update of `add_link` / `delete_link`: rewrite the entry of `d` -/
def setStore (s : DM) (d : Name) (f : List Link → List Link) : DM :=
  { s with allLinks := s.allLinks.map fun (e : Name × List Link) => if e.1 == d then (e.1, f e.2) else e }

theorem setStore_keys (s : DM) (d : Name) (f : List Link → List Link) :
    (setStore s d f).allLinks.map (·.1) = s.allLinks.map (·.1) :=
  map_keys _ _ fun e => by split <;> rfl

theorem setStore_dmatchFn (s : DM) (d : Name) (f : List Link → List Link) : (setStore s d f).dmatchFn = s.dmatchFn := rfl

theorem recorded_setStore {s : DM} {d : Name} {f : List Link → List Link} {d' : Name} {l : Link} :
    (setStore s d f).recorded d' l ↔ ∃ ls, (d', ls) ∈ s.allLinks ∧ l ∈ if d' = d then f ls else ls := by
  simp only [DM.recorded, setStore, mem_map_at (p := (· == d))]
  simp only [beq_iff_eq]
  exact ⟨fun ⟨_, ⟨ls, h, e⟩, hl⟩ => ⟨ls, h, e ▸ hl⟩, fun ⟨ls, h, hl⟩ => ⟨_, ⟨ls, h, rfl⟩, hl⟩⟩

theorem recorded_setStore_insert {s : DM} {d : Name} (hk : d ∈ s.allLinks.map (·.1)) (a b d' : Name) (l : Link) :
    (setStore s d (insertE (a, b))).recorded d' l ↔ s.recorded d' l ∨ (d' = d ∧ l = (a, b)) := by
  obtain ⟨⟨k, ls⟩, hmem, rfl⟩ := List.mem_map.mp hk
  rw [recorded_setStore, DM.recorded]
  by_cases hd : d' = k
  · subst hd
    simp only [if_true, mem_insertE, true_and]
    constructor
    · rintro ⟨ls', h, rfl | hl⟩
      · exact .inr rfl
      · exact .inl ⟨ls', h, hl⟩
    · rintro (⟨ls', h, hl⟩ | rfl)
      · exact ⟨ls', h, .inr hl⟩
      · exact ⟨ls, hmem, .inl rfl⟩
  · simp [hd]

theorem recorded_setStore_erase {s : DM} {d : Name} (hs : ∀ d ls, (d, ls) ∈ s.allLinks → ls.Nodup)
    (a b d' : Name) (l : Link) :
    (setStore s d (fun ls => ls.erase (a, b))).recorded d' l ↔ s.recorded d' l ∧ ¬ (d' = d ∧ l = (a, b)) := by
  rw [recorded_setStore, DM.recorded]
  by_cases hd : d' = d
  · simp only [hd, if_true, true_and]
    constructor
    · rintro ⟨ls, h, hl⟩
      exact ⟨⟨ls, h, List.mem_of_mem_erase hl⟩, ((hs _ _ h).mem_erase_iff.mp hl).1⟩
    · rintro ⟨⟨ls, h, hl⟩, hne⟩
      exact ⟨ls, h, (hs _ _ h).mem_erase_iff.mpr ⟨hne, hl⟩⟩
  · simp [hd]

/-- "affected" (which cached managers `add_link`/`delete_link` update) and "covers" (which stores a new manager is
    built from) are the same relation, for ANY domain matching function (F36) -/
theorem affected_iff {s : DM} (d0 d : Name) :
    s.affected d0 d = true ↔ s.covers d0 d := by
  unfold DM.affected DM.covers
  cases s.dmatchFn <;> simp [eq_comm (a := d0)]

/-- the shape `add_link` and `delete_link` share after `touch`: the store entry of `d` is rewritten by `f`, the caches
    are replaced by `m` -/
theorem update_inv {s : DM} (h : DInv s) (d : Name) (f : List Link → List Link) (m : List (Name × RM))
    (hf : ∀ ls, ls.Nodup → (f ls).Nodup)
    (hpl : ∀ d' l, (setStore s d f).recorded d' l → s.recorded d' l ∨ ∀ n, s.matchFn n l.2 = true → n = l.2)
    (hck : (m.map (·.1)).Nodup)
    (hc : ∀ d0 rm, (d0, rm) ∈ m → Coh s.maxLevel s.matchFn ((setStore s d f).eff d0) rm) :
    DInv { setStore s d f with rmMap := m } := by
  refine ⟨(setStore_keys ..).symm ▸ h.keys, hck, fun d' ls' hmem => ?_, h.trans,
    fun d' l hr n hn => (hpl d' l hr).elim (fun hr => h.plain d' l hr n hn) fun hb => hb n hn, hc⟩
  obtain ⟨ls, hls, rfl⟩ := (mem_map_at (p := (· == d))).mp hmem
  split
  · exact hf _ (h.stores d' ls hls)
  · exact h.stores d' ls hls

theorem eff_setStore_of_not_covers {s : DM} {d : Name} (f : List Link → List Link) {k : Name} (l : Link)
    (hk : ¬ s.covers k d) : (setStore s d f).eff k l ↔ s.eff k l := by
  simp only [DM.eff, DM.covers, setStore_dmatchFn]
  refine exists_congr fun d' => and_congr_right fun hc => ?_
  have hne : d' ≠ d := fun e => hk (e ▸ hc)
  rw [recorded_setStore]
  simp only [if_neg hne, DM.recorded]

/-- the cached managers after the store entry of `d` was rewritten: those whose domain `d` does not cover are left
    alone and see no change; to the others `g` was applied -/
theorem caches_map {s : DM} (h : DInv s) (d : Name) (f : List Link → List Link) (g : RM → RM)
    (hg : ∀ k rm, s.covers k d → Coh s.maxLevel s.matchFn (s.eff k) rm →
      Coh s.maxLevel s.matchFn ((setStore s d f).eff k) (g rm))
    (k : Name) (rm' : RM) (hmem : (k, rm') ∈ s.rmMap.map fun e => if s.affected e.1 d then (e.1, g e.2) else e) :
    Coh s.maxLevel s.matchFn ((setStore s d f).eff k) rm' := by
  obtain ⟨rm, hrm, rfl⟩ := (mem_map_at (p := (s.affected · d))).mp hmem
  have hk : Coh _ _ _ rm := h.cache k rm hrm
  split
  · next hA => exact hg k rm ((affected_iff k d).mp hA) hk
  · next hA => exact hk.congr fun l => (eff_setStore_of_not_covers f l (mt (affected_iff k d).mpr hA)).symm

/-- coherence is preserved by `add_link` (cached or not, with or without a domain matching function) and the link is
    recorded for exactly that domain -/
theorem dm_addLink_spec {s : DM} (h : DInv s) (a b d : Name) (hb : ∀ n, s.matchFn n b = true → n = b) :
    DInv (s.addLink a b d) ∧
    (∀ d' l, (s.addLink a b d).recorded d' l ↔ s.recorded d' l ∨ (d' = d ∧ l = (a, b))) ∧
    (s.addLink a b d).dmatchFn = s.dmatchFn ∧ (s.addLink a b d).matchFn = s.matchFn ∧
    (s.addLink a b d).maxLevel = s.maxLevel := by
  have h1 := touch_inv h d
  have hrec := recorded_setStore_insert (touch_keys_mem s d) a b
  have hb1 : ∀ n, (s.touch d).matchFn n b = true → n = b := touch_matchFn s d ▸ hb
  refine ⟨update_inv h1 d _ _ (fun _ => nodup_insertE) ?_ ?_ ?_, fun d' l => touch_recorded s d ▸ hrec d' l,
    touch_dmatchFn s d, touch_matchFn s d, touch_maxLevel s d⟩
  · exact fun d' l hr => ((hrec d' l).mp hr).imp_right fun e => by rw [e.2]; exact hb1
  · rw [map_keys _ _ (by intro e; split <;> rfl)]; exact h1.ckeys
  · -- a cached manager is told of the link exactly when `d` covers its domain
    refine caches_map h1 d _ _ fun k rm hk c => (c.addLink h1.trans a b hb1).congr fun l => ?_
    simp only [DM.eff, DM.covers, setStore_dmatchFn, hrec]
    constructor
    · rintro (⟨d', hc, hr⟩ | hl)
      · exact ⟨d', hc, .inl hr⟩
      · exact ⟨d, hk, .inr ⟨rfl, hl⟩⟩
    · rintro ⟨d', hc, hr | ⟨-, hl⟩⟩
      · exact .inl ⟨d', hc, hr⟩
      · exact .inr hl

theorem deleteInCaches_spec (aff : Name → Bool) (a b : Name) (l : List (Name × RM))
    (hall : ∀ e ∈ l, aff e.1 = true → (e.2.deleteLink a b).2 = none) :
    deleteInCaches aff a b l =
      (l.map fun (e : Name × RM) => if aff e.1 then (e.1, (e.2.deleteLink a b).1) else e, none) := by
  induction l with
  | nil => rfl
  | cons e l ih =>
    have ih' := ih (fun e he => hall e (List.mem_cons_of_mem _ he))
    have hn := hall e List.mem_cons_self
    unfold deleteInCaches
    by_cases hd : aff e.1 = true
    · simp only [hd, ↓reduceIte, List.map_cons, ih']
      cases hdl : e.2.deleteLink a b with
      | mk rm' err => simp [hdl, hd] at hn; subst hn; rfl
    · simp only [hd, Bool.false_eq_true, ↓reduceIte, List.map_cons, ih']

theorem delCaches_eq (s : DM) (a b d : Name) :
    s.delCaches a b d = match s.dmatchFn with
      | some _ => (s.rmMap.filter fun e => !s.affected e.1 d, none)
      | none => deleteInCaches (s.affected · d) a b s.rmMap := by
  unfold DM.delCaches DM.affected
  cases s.dmatchFn <;> rfl

/-- the cache part of `delete_link` (which reads no store), once the store entry of `d` has lost the link (`hEd`), on
    the caches of the coherent `s`: it never raises and leaves coherent managers -/
theorem delCaches_spec {s : DM} (h : DInv s) (a b d : Name) (f : List Link → List Link)
    (hEd : s.dmatchFn = none → ∀ l, (setStore s d f).eff d l ↔ s.eff d l ∧ l ≠ (a, b)) :
    ∃ m, s.delCaches a b d = (m, none) ∧ (m.map (·.1)).Nodup ∧
      ∀ k rm, (k, rm) ∈ m → Coh s.maxLevel s.matchFn ((setStore s d f).eff k) rm := by
  rw [delCaches_eq]
  cases hdm : s.dmatchFn with
  | some dm =>
    refine ⟨_, rfl, h.ckeys.sublist (List.filter_sublist.map _), fun k rm hmem => ?_⟩
    obtain ⟨hrm, hA⟩ := List.mem_filter.mp hmem
    have hk : Coh _ _ _ rm := h.cache k rm hrm
    exact hk.congr fun l => (eff_setStore_of_not_covers f l (by rw [← affected_iff]; simpa using hA)).symm
  | none =>
    rw [deleteInCaches_spec _ a b s.rmMap fun e he _ => (Coh.deleteLink h.trans (h.cache e.1 e.2 he) a b).1]
    refine ⟨_, rfl, ?_, caches_map h d f (fun rm => (rm.deleteLink a b).1) fun k rm hk c => ?_⟩
    · rw [map_keys _ _ (by intro e; split <;> rfl)]; exact h.ckeys
    obtain rfl : d = k := by simpa [DM.covers, hdm] using hk
    exact (c.deleteLink h.trans a b).2.congr fun l => (hEd hdm l).symm

theorem recorded_minus_absent {s : DM} {a b d : Name} (hR : ¬ s.recorded d (a, b)) (d' : Name) (l : Link) :
    s.recorded d' l ∧ ¬ (d' = d ∧ l = (a, b)) ↔ s.recorded d' l := by
  refine ⟨And.left, fun hr => ⟨hr, ?_⟩⟩
  rintro ⟨rfl, rfl⟩
  exact hR hr

/-- `delete_link` in one statement for both cases, recorded or not (`dm_deleteLink_spec` is its two-case reading) -/
theorem dm_deleteLink {s : DM} (h : DInv s) (a b d : Name) :
    DInv (s.deleteLink a b d).1 ∧ (s.deleteLink a b d).2 = none ∧
    (∀ d' l, (s.deleteLink a b d).1.recorded d' l ↔ s.recorded d' l ∧ ¬ (d' = d ∧ l = (a, b))) ∧
    (s.deleteLink a b d).1.dmatchFn = s.dmatchFn ∧ (s.deleteLink a b d).1.matchFn = s.matchFn ∧
    (s.deleteLink a b d).1.maxLevel = s.maxLevel := by
  have h1 := touch_inv h d
  have hmemL : ((s.touch d).linksOf d).contains (a, b) = true ↔ s.recorded d (a, b) := by
    rw [List.contains_iff_mem, mem_linksOf h1.keys, touch_recorded]
  by_cases hR : s.recorded d (a, b)
  · have hrec := recorded_setStore_erase (d := d) h1.stores a b
    obtain ⟨m, e1, e2, e3⟩ := delCaches_spec h1 a b d (fun ls => ls.erase (a, b)) fun hdm l => by
      rw [eff_none (s := setStore ..) hdm, eff_none hdm, hrec]; simp
    have heq : s.deleteLink a b d =
        ({ setStore (s.touch d) d (fun ls => ls.erase (a, b)) with
            rmMap := ((s.touch d).delCaches a b d).1 }, ((s.touch d).delCaches a b d).2) := by
      unfold DM.deleteLink
      simp only [hmemL.mpr hR, Bool.not_true, Bool.false_eq_true, ↓reduceIte]
      rfl
    rw [heq, e1]
    exact ⟨update_inv h1 d _ m (fun _ hn => hn.erase _) (fun d' l hr => .inl ((hrec d' l).mp hr).1) e2 e3,
      rfl, fun d' l => touch_recorded s d ▸ hrec d' l, touch_dmatchFn s d, touch_matchFn s d, touch_maxLevel s d⟩
  · -- not recorded: silent no-op, only the (empty) store entry may have been created
    have heq : s.deleteLink a b d = (s.touch d, none) := by
      unfold DM.deleteLink; simp only [mt hmemL.mp hR, Bool.not_false, ↓reduceIte]
    rw [heq]
    exact ⟨h1, rfl, fun d' l => by rw [touch_recorded]; exact (recorded_minus_absent hR d' l).symm,
      touch_dmatchFn s d, touch_matchFn s d, touch_maxLevel s d⟩

/-- coherence is preserved by `delete_link`: it never raises; deleting an unrecorded link changes no assignment;
    deleting a recorded one removes exactly that (domain, link) record, whatever caches exist (F23: under a domain
    matching function the affected caches are dropped) -/
theorem dm_deleteLink_spec {s : DM} (h : DInv s) (a b d : Name) :
    DInv (s.deleteLink a b d).1 ∧
    (s.deleteLink a b d).1.dmatchFn = s.dmatchFn ∧ (s.deleteLink a b d).1.matchFn = s.matchFn ∧
    (s.deleteLink a b d).1.maxLevel = s.maxLevel ∧
    (¬ s.recorded d (a, b) →
      (s.deleteLink a b d).2 = none ∧ (s.deleteLink a b d).1.recorded = s.recorded) ∧
    (s.recorded d (a, b) →
      (s.deleteLink a b d).2 = none ∧
      ∀ d' l, (s.deleteLink a b d).1.recorded d' l ↔ s.recorded d' l ∧ ¬ (d' = d ∧ l = (a, b))) := by
  obtain ⟨i1, i2, i3, i4, i5, i6⟩ := dm_deleteLink h a b d
  refine ⟨i1, i4, i5, i6, fun hR => ⟨i2, ?_⟩, fun _ => ⟨i2, i3⟩⟩
  funext d' l
  exact propext ((i3 d' l).trans (recorded_minus_absent hR d' l))

theorem dinv_no_cache {s s' : DM} (h : DInv s) (ha : s'.allLinks = s.allLinks) (hm : s'.matchFn = s.matchFn)
    (hc : s'.rmMap = []) : DInv s' :=
  ⟨ha ▸ h.keys, by simp [hc], ha ▸ h.stores, hm ▸ h.trans, by rw [recorded_of_allLinks ha, hm]; exact h.plain, by simp [hc]⟩

theorem dinv_of_empty {s : DM} (ha : s.allLinks = []) (hc : s.rmMap = []) (ht : Trans s.matchFn) : DInv s := by
  refine ⟨?_, ?_, ?_, ht, ?_, ?_⟩ <;> simp [ha, hc, DM.recorded]

inductive DOp
  | add (a b d : Name) | del (a b d : Name) | has (u r d : Name) | roles (n d : Name) | users (n d : Name) | clear

def dstep (s : DM) : DOp → DM × Option Err
  | .add a b d => (s.addLink a b d, none)
  | .del a b d => s.deleteLink a b d
  | .has u r d => ((s.hasLink u r d).1, none)
  | .roles n d => ((s.getRoles n d).1, none)
  | .users n d => ((s.getUsers n d).1, none)
  | .clear => (s.clear, none)

def drun (s : DM) : List DOp → DM
  | [] => s
  | op :: ops => drun (dstep s op).1 ops

def derrors (s : DM) : List DOp → List Err
  | [] => []
  | op :: ops => (match (dstep s op).2 with | some e => [e] | none => []) ++ derrors (dstep s op).1 ops

def dupd (P : Name → Link → Prop) (op : DOp) : Name → Link → Prop :=
  match op with
  | .add a b d => fun d' l => P d' l ∨ (d' = d ∧ l = (a, b))
  | .del a b d => fun d' l => P d' l ∧ ¬ (d' = d ∧ l = (a, b))
  | .clear => fun _ _ => False
  | _ => P

/-- the (domain, link) records in force after a history that starts with the records `P` -/
def dforce (P : Name → Link → Prop) : List DOp → Name → Link → Prop
  | [] => P
  | op :: ops => dforce (dupd P op) ops

theorem dstep_inv {s : DM} (h : DInv s) (op : DOp)
    (hop : ∀ a b d, op = .add a b d → ∀ n, s.matchFn n b = true → n = b) :
    DInv (dstep s op).1 ∧ (dstep s op).1.dmatchFn = s.dmatchFn ∧ (dstep s op).1.matchFn = s.matchFn ∧
    (dstep s op).1.maxLevel = s.maxLevel ∧
    (∀ d l, (dstep s op).1.recorded d l ↔ dupd s.recorded op d l) ∧
    (dstep s op).2 = none := by
  -- a query leaves the stores alone (`none = none`: the error component of a query step, so that `hq` gives the
  -- whole conclusion)
  have hq : ∀ {s' : DM}, DInv s' ∧ s'.allLinks = s.allLinks ∧ s'.dmatchFn = s.dmatchFn ∧ s'.matchFn = s.matchFn ∧
      s'.maxLevel = s.maxLevel → DInv s' ∧ s'.dmatchFn = s.dmatchFn ∧ s'.matchFn = s.matchFn ∧
      s'.maxLevel = s.maxLevel ∧ (∀ d l, s'.recorded d l ↔ s.recorded d l) ∧ (none : Option Err) = none :=
    fun ⟨i1, i2, i3, i4, i5⟩ => ⟨i1, i3, i4, i5, fun d l => by rw [recorded_of_allLinks i2], rfl⟩
  cases op with
  | add a b d =>
    obtain ⟨i1, i2, i3, i4, i5⟩ := dm_addLink_spec h a b d (hop a b d rfl)
    exact ⟨i1, i3, i4, i5, i2, rfl⟩
  | del a b d =>
    obtain ⟨i1, i2, i3, i4, i5, i6⟩ := dm_deleteLink h a b d
    exact ⟨i1, i4, i5, i6, i3, i2⟩
  | has u r d => exact hq (dm_hasLink_spec h u r d).2
  | roles n d => exact hq (dm_getRoles_spec h n d).2
  | users n d => exact hq (dm_getUsers_inv h n d)
  | clear => exact ⟨dinv_of_empty rfl rfl h.trans, rfl, rfl, rfl, fun d l => by simp [dstep, DM.clear, DM.recorded, dupd], rfl⟩

def DPlainRoles (m : MatchFn) (ops : List DOp) : Prop :=
  ∀ a b d, DOp.add a b d ∈ ops → ∀ n, m n b = true → n = b

/-- Cache coherence over histories: whatever adds, deletes, queries (which build caches) and clears were made, in
    whatever order, no call raised, the domain manager is coherent and the records in force are those the history
    says -/
theorem drun_inv {s : DM} (h : DInv s) (ops : List DOp) (hops : DPlainRoles s.matchFn ops) :
    DInv (drun s ops) ∧ (drun s ops).dmatchFn = s.dmatchFn ∧ (drun s ops).matchFn = s.matchFn ∧
    (drun s ops).maxLevel = s.maxLevel ∧ (∀ d l, (drun s ops).recorded d l ↔ dforce s.recorded ops d l) ∧
    derrors s ops = [] := by
  induction ops generalizing s with
  | nil => exact ⟨h, rfl, rfl, rfl, fun d l => Iff.rfl, rfl⟩
  | cons op ops ih =>
    obtain ⟨h1, h2, h3, h4, h5, h6⟩ := dstep_inv h op (fun a b d e => hops a b d (by simp [e]))
    obtain ⟨i1, i2, i3, i4, i5, i6⟩ := @ih (dstep s op).1 h1
      (fun a b d hab => h3 ▸ hops a b d (List.mem_cons_of_mem _ hab))
    refine ⟨i1, i2.trans h2, i3.trans h3, i4.trans h4, fun d l => ?_, by simp [derrors, h6, i6]⟩
    have : (dstep s op).1.recorded = dupd s.recorded op := funext fun d' => funext fun l' => propext (h5 d' l')
    show (drun (dstep s op).1 ops).recorded d l ↔ dforce (dupd s.recorded op) ops d l
    rw [← this]; exact i5 d l

def dinit (L : Nat) (mf : MatchFn) (dmf : Option MatchFn) : DM := { maxLevel := L, matchFn := mf, dmatchFn := dmf }

theorem dinit_inv (L : Nat) (mf : MatchFn) (dmf : Option MatchFn) (ht : Trans mf) : DInv (dinit L mf dmf) :=
  dinv_of_empty rfl rfl ht

theorem trans_beq : Trans (fun a b => a == b) := by
  intro n p a h1 h2; simp only [beq_iff_eq] at *; exact h1.trans h2

theorem dinit_recorded (L : Nat) (mf : MatchFn) (dmf : Option MatchFn) :
    (dinit L mf dmf).recorded = fun _ _ => False := by
  funext d l; simp [DM.recorded, dinit]

/-- `DomainManager` as the enforcer creates it (no domain matching function; names related
    by equality only): after ANY history, `has_link(u, r, d)` ⇔ bounded reachability over the links recorded
    for the queried domain — and for no other —, whether the answer comes from a cache or a fresh build;
    `get_roles` / `get_users` report exactly the direct assignments of that domain. -/
theorem domain_scoped (L : Nat) (ops : List DOp) (u r d : Name) (s : DM)
    (hs : s = drun (dinit L (fun a b => a == b) none) ops) :
    ((s.hasLink u r d).2 = true ↔ ∃ n, n < L ∧ PathR (fun a b => s.recorded d (a, b)) u r n) ∧
    (∀ x, x ∈ (s.getRoles u d).2 ↔ s.recorded d (u, x)) ∧
    (∀ x, x ∈ (s.getUsers r d).2 ↔ s.recorded d (x, r)) ∧
    (∀ d' l, s.recorded d' l ↔ dforce (fun _ _ => False) ops d' l) ∧
    derrors (dinit L (fun a b => a == b) none) ops = [] := by
  obtain ⟨h1, h2, h3, h4, h5, h6⟩ := drun_inv (dinit_inv L _ none trans_beq) ops
    (fun a b d _ n hn => by simpa [dinit] using hn)
  rw [← hs] at h1 h2 h3 h4 h5
  have h2 : s.dmatchFn = none := h2
  have h3 : s.matchFn = fun a b => a == b := h3
  -- the effective edges in `d` are the records of `d`: there is no domain pattern and no name pattern
  have hE : ∀ x y, (∃ a d', s.covers d d' ∧ s.recorded d' (a, y) ∧ (x = a ∨ s.matchFn x a = true)) ↔
      s.recorded d (x, y) := fun x y => by simp [DM.covers, h2, h3]
  refine ⟨?_, fun x => ?_, fun x => ?_, fun d' l => by rw [h5, dinit_recorded], h6⟩
  · rw [dm_hasLink_iff h1, show s.maxLevel = L from h4]; simp only [PathR.congr hE]
  · rw [dm_getRoles_iff h1, hE]
  · rw [(dm_getUsers_spec h1 (by simp [h3]) r d).1, mem_effLinks h1.keys, eff_none h2]

/-- queries never change what is recorded (they may build caches and create nodes) -/
theorem dm_query_pure {s : DM} (h : DInv s) (u r d : Name) :
    (s.hasLink u r d).1.allLinks = s.allLinks ∧ (s.getRoles u d).1.allLinks = s.allLinks ∧
    (s.getUsers u d).1.allLinks = s.allLinks ∧
    DInv (s.hasLink u r d).1 ∧ DInv (s.getRoles u d).1 ∧ DInv (s.getUsers u d).1 :=
  ⟨(dm_hasLink_spec h u r d).2.2.1, (dm_getRoles_spec h u d).2.2.1, (dm_getUsers_inv h u d).2.1,
   (dm_hasLink_spec h u r d).2.1, (dm_getRoles_spec h u d).2.1, (dm_getUsers_inv h u d).1⟩

/-! F18's history (duplicate add, delete) answers the same with and without a cache; with a cache, a link recorded
for another domain is not followed -/
example :
    ((drun (dinit 10 (fun a b => a == b) none) [.add "a" "r" "d", .add "a" "r" "d", .del "a" "r" "d"]).hasLink "a" "r" "d").2 = false ∧
    ((drun (dinit 10 (fun a b => a == b) none) [.has "x" "y" "d", .add "a" "r" "d", .add "a" "r" "d", .del "a" "r" "d"]).hasLink "a" "r" "d").2 = false ∧
    ((drun (dinit 10 (fun a b => a == b) none) [.has "x" "y" "d", .add "a" "r" "d", .add "r" "s" "d", .add "r" "t" "e"]).hasLink "a" "s" "d").2 = true ∧
    ((drun (dinit 10 (fun a b => a == b) none) [.has "x" "y" "d", .add "a" "r" "d", .add "r" "s" "d", .add "r" "t" "e"]).hasLink "a" "t" "d").2 = false := by
  decide +kernel

/-- `g(n1, n2)` is `has_link(n1, n2)`, `g(n1, n2, d, …)` is `has_link(n1, n2, d)`; without a manager `g` is equality;
    a single argument is the `IndexError` -/
theorem gFunction_spec (m : Mgr) (n1 n2 d : Name) (rest : List Name) :
    gFunction (some m) [n1, n2] = ((some (m.hasLink n1 n2 []).1), (m.hasLink n1 n2 []).2) ∧
    gFunction (some m) (n1 :: n2 :: d :: rest) = ((some (m.hasLink n1 n2 [d]).1), (m.hasLink n1 n2 [d]).2) ∧
    gFunction none (n1 :: n2 :: rest) = (none, .ok (n1 == n2)) ∧
    gFunction (some m) [n1] = (some m, .error .indexError) := by
  refine ⟨rfl, rfl, rfl, rfl⟩

/-- `build_role_links` on a plain manager with well-formed rules (`count ≥ 2`, every rule at least that long)
    raises nothing and adds exactly the links (rule[0], rule[1]) in order (what lies beyond the role definition is
    cut: the example below); a short FIRST rule stops it with the manager untouched (`buildRoleLinks_short`) -/
theorem buildRoleLinks_plain (count : Nat) (hc : 2 ≤ count) (s : RM) (rules : List (List Name))
    (hlen : ∀ r ∈ rules, count ≤ r.length) :
    buildRoleLinks count (.plain s) rules =
      (.plain (rules.foldl (fun t r => t.addLink (r.headD "") ((r.drop 1).headD "")) s), none) := by
  induction rules generalizing s with
  | nil => simp [buildRoleLinks, show ¬ count < 2 by omega]
  | cons r rs ih =>
    have hr := hlen r List.mem_cons_self
    unfold buildRoleLinks
    simp only [show ¬ count < 2 by omega, show ¬ r.length < count by omega, ↓reduceIte]
    match r, hr with
    | a :: b :: rest, _ =>
      obtain ⟨k, rfl⟩ : ∃ k, count = k + 2 := ⟨count - 2, by omega⟩
      simp only [List.take_succ_cons, Mgr.addLink, List.foldl_cons, List.headD_cons, List.drop_succ_cons, List.drop_zero]
      exact ih (s.addLink a b) (fun r' hr' => hlen r' (List.mem_cons_of_mem _ hr'))
    | [a], h => simp at h; omega
    | [], h => simp at h; omega

theorem buildRoleLinks_short (count : Nat) (hc : 2 ≤ count) (m : Mgr) (r : List Name) (rs : List (List Name))
    (hr : r.length < count) : buildRoleLinks count m (r :: rs) = (m, some .shortRule) := by
  unfold buildRoleLinks; simp [show ¬ count < 2 by omega, hr]

theorem buildRoleLinks_badDef (count : Nat) (hc : count < 2) (m : Mgr) (rules : List (List Name)) :
    buildRoleLinks count m rules = (m, some .badRoleDef) := by
  cases rules <;> simp [buildRoleLinks, hc]

example : (buildRoleLinks 2 (.plain (fresh 10 none)) [["a", "b"], ["b", "c", "extra"]]).2 = none := by decide +kernel

end Casbin.C03
