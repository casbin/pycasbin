import CasbinV.Props.C04
import CasbinV.Props.C09
import CasbinV.Props.C01
import CasbinV.Props.C15
/-!
# C05 — domains are isolated tenants

Model with domains (`Shape.rbacDom`): requests `[sub, dom, obj, act]`, permission rules `[sub, dom, obj, act]`, role
assignments `[user, role, dom]`, matcher `g(r.sub, p.sub, r.dom) && r.dom == p.dom && r.obj == p.obj && r.act == p.act`.
-/
namespace Casbin.Enf.C05
open Casbin.Policy Casbin.Policy.C06 Casbin.Enf.C04

/-- position of the domain field in a rule of a section -/
def domIdx : Sec → Nat
  | .p => 1 | .g => 2 | .g2 => 2

/-- the rule is recorded for domain `D` -/
def inDom (sec : Sec) (D : String) (r : Rule) : Bool := r[domIdx sec]? == some D

def part (sec : Sec) (D : String) (l : List Rule) : List Rule := l.filter (inDom sec D)

/-- two states agree on what is recorded for `D`: permission rules, role assignments, role links (`g`; the model has
    no `g2`) -/
structure SameIn (D : String) (s s' : St) : Prop where
  p : part .p D s'.pol.p = part .p D s.pol.p
  g : part .g D s'.pol.g = part .g D s.pol.g
  lg : part .g D s'.links.g = part .g D s.links.g

theorem SameIn.refl (D : String) (s : St) : SameIn D s s := ⟨rfl, rfl, rfl⟩

theorem SameIn.trans {D : String} {a b c : St} (h1 : SameIn D a b) (h2 : SameIn D b c) : SameIn D a c :=
  ⟨h2.p.trans h1.p, h2.g.trans h1.g, h2.lg.trans h1.lg⟩

/-! ## list lemmas: operations on foreign rules do not touch the `D` part -/

variable {f : Rule → Bool}

theorem filter_append_foreign (l n : List Rule) (h : ∀ r ∈ n, f r = false) : (l ++ n).filter f = l.filter f := by
  simpa using h

theorem filter_erase_foreign (l : List Rule) (r : Rule) (h : f r = false) : (l.erase r).filter f = l.filter f := by
  rw [← List.erase_filter, List.erase_of_not_mem]
  simp [h]

theorem filter_set_foreign (l : List Rule) (i : Nat) (new : Rule) (hi : i < l.length) (h1 : f new = false)
    (h2 : f l[i] = false) : (l.set i new).filter f = l.filter f := by
  induction l generalizing i with
  | nil => simp at hi
  | cons a as ih =>
    cases i with
    | zero => simp at h2; simp [List.filter, h1, h2]
    | succ j =>
      simp only [List.length_cons] at hi
      simp only [List.getElem_cons_succ] at h2
      simp only [List.set_cons_succ, List.filter]
      rw [ih j (by omega) h2]

theorem filter_filter_foreign (l : List Rule) (m : Rule → Bool) (h : ∀ x ∈ l, f x = true → m x = false) :
    (l.filter (fun r => !m r)).filter f = l.filter f := by
  rw [List.filter_filter]
  apply List.filter_congr
  intro x hx
  cases hfx : f x with
  | false => simp
  | true => simp [h x hx hfx]

theorem foldl_erase_foreign (rs l : List Rule) (h : ∀ r ∈ rs, f r = false) :
    (rs.foldl (fun acc r => if acc.contains r then acc.erase r else acc) l).filter f = l.filter f :=
  List.foldlRecOn rs _ (motive := fun acc : List Rule => acc.filter f = l.filter f) rfl fun acc ih r hr => by
    rw [← ih]; split
    · exact filter_erase_foreign acc r (h r hr)
    · rfl

theorem incLinks_foreign (count : Nat) (add : Bool) (pol rs store res : List Rule)
    (h : ∀ r ∈ rs, f (r.take count) = false) (hres : incLinks count add pol store rs = .ok res) :
    res.filter f = store.filter f := by
  induction rs generalizing store with
  | nil => cases hres; rfl
  | cons r rs ih =>
    unfold incLinks at hres
    split at hres
    · cases hres
    · rw [ih _ (fun x hx => h x (List.mem_cons_of_mem _ hx)) hres]
      have hr := h r List.mem_cons_self
      cases add with
      | true =>
        simp only [↓reduceIte, addLink]
        split
        · rfl
        · exact filter_append_foreign store _ (by simpa using hr)
      | false =>
        simp only [Bool.false_eq_true, ↓reduceIte]
        split
        · rfl
        · exact filter_erase_foreign store _ hr

/-- the call touches only things recorded for domains other than `D`.  A filtered removal does when its filter pins
    the domain position (`idx + j = domIdx sec`) to a value other than `D` and other than `""`, the wildcard.
    `update_policies` is left out: there is no frame lemma for the positional batch replacement. -/
def Foreign (D : String) : Op → Prop
  | .add sec r => inDom sec D r = false
  | .addMany sec rs => ∀ r ∈ rs, inDom sec D r = false
  | .remove sec r => inDom sec D r = false
  | .removeMany sec rs => ∀ r ∈ rs, inDom sec D r = false
  | .removeFiltered sec idx vals => ∃ j d, idx + j = domIdx sec ∧ vals[j]? = some d ∧ d ≠ "" ∧ d ≠ D
  | .update old new => inDom .p D old = false ∧ inDom .p D new = false
  | _ => False

theorem inDom_take (D : String) (n : Nat) (r : Rule) (h : inDom .g D r = false) : inDom .g D (r.take n) = false := by
  simp only [inDom, domIdx, List.getElem?_take] at *
  split
  · exact h
  · rfl

theorem sameIn_of_change (D : String) (s s' : St) (sec : Sec) (l : List Rule)
    (hpol : s'.pol = s.pol.set sec l) (hl : part sec D l = part sec D (s.pol.get sec))
    (hlinks : part .g D s'.links.g = part .g D s.links.g) : SameIn D s s' := by
  cases sec with
  | p => exact ⟨by rw [hpol]; exact hl, by rw [hpol]; rfl, hlinks⟩
  | g => exact ⟨by rw [hpol]; rfl, by rw [hpol]; exact hl, hlinks⟩
  | g2 => exact ⟨by rw [hpol]; rfl, by rw [hpol]; rfl, hlinks⟩

theorem sameIn_commit (cfg : Cfg) (D : String) (s : St) (ch : Change)
    (hl : part ch.sec D ch.l = part ch.sec D (s.pol.get ch.sec))
    (hr : ch.sec = .g → ∀ r ∈ ch.rules, inDom .g D r = false) : SameIn D s (commit cfg s ch).1 := by
  refine sameIn_of_change D s _ ch.sec ch.l (commit_pol cfg s ch) hl ?_
  cases hlk : ch.links cfg s with
  | error e => rw [commit_links_error hlk]
  | ok l' =>
    rw [commit_links_ok hlk]
    cases hsec : ch.sec with
    | p => rfl
    | g2 => rfl
    | g =>
      -- the links of `g` are maintained with `ch.rules`, whose links are foreign like the rules themselves
      cases hab : s.autoBuild with
      | false =>
        rw [Change.links_quiet (.inr hab), hsec] at hlk
        cases hlk; rfl
      | true =>
        rw [Change.links_grouping (by simp [hsec]) hab, hsec] at hlk
        exact incLinks_foreign _ ch.add _ ch.rules _ l' (fun r hx => inDom_take D _ r (hr hsec r hx)) hlk

theorem foreign_filter_no_match (sec : Sec) (D : String) (idx : Nat) (vals : List String)
    (hf : ∃ j d, idx + j = domIdx sec ∧ vals[j]? = some d ∧ d ≠ "" ∧ d ≠ D) (r : Rule)
    (hr : inDom sec D r = true) : Spec.matchesFilter idx vals r = false := by
  obtain ⟨j, d, hj, hv, hne, hnd⟩ := hf
  rw [Bool.eq_false_iff]
  intro hall
  have := List.all_eq_true.mp hall (d, j) (List.mem_zipIdx_iff_getElem?.mpr (by simpa using hv))
  unfold inDom at hr
  simp only [beq_iff_eq] at hr
  simp only [Bool.or_eq_true, beq_iff_eq, hne, false_or, hj, hr] at this
  exact hnd (Option.some.inj this).symm

/-- a foreign call that goes through leaves the `D` part of its section as it was, and maintains foreign links only -/
theorem _root_.Casbin.Enf.Commits.foreign {cfg : Cfg} {s : St} {op : Op} {ch : Change} (hc : Commits cfg s op ch)
    (D : String) (hop : Foreign D op) :
    part ch.sec D ch.l = part ch.sec D (s.pol.get ch.sec) ∧ ∀ r ∈ ch.rules, inDom ch.sec D r = false := by
  cases hc with
  | @add sec r l h _ =>
    have hr : ∀ x ∈ [r], inDom sec D x = false := fun x hx => by simp at hx; subst hx; exact hop
    rw [(add_ok h).2]
    exact ⟨filter_append_foreign _ _ hr, hr⟩
  | @addMany sec rs l h _ =>
    rw [addMany_ok h, foldl_add_eq_append]
    exact ⟨filter_append_foreign _ _ fun r hr => hop r (List.mem_filter.mp (List.mem_eraseDups.mp hr)).1, hop⟩
  | @remove sec r l h =>
    rw [(remove_ok h).2]
    exact ⟨filter_erase_foreign _ r hop, fun x hx => by simp at hx; subst hx; exact hop⟩
  | @removeMany sec rs l h =>
    rw [(removeMany_ok h).2]
    exact ⟨foldl_erase_foreign rs _ hop, hop⟩
  | @removeFiltered sec idx vals y ys no h =>
    obtain ⟨hy, hn⟩ := partitionFiltered_ok _ _ _ _ _ h
    constructor
    · rw [hn]; exact filter_filter_foreign _ _ fun x _ hx => foreign_filter_no_match sec D idx vals hop x hx
    · intro x (hx : x ∈ y :: ys)
      rw [hy, List.mem_filter] at hx
      cases hin : inDom sec D x with
      | false => rfl
      | true => rw [foreign_filter_no_match sec D idx vals hop x hin] at hx; cases hx.2
  | @update old new l h =>
    obtain ⟨hin, rfl⟩ := update_ok h
    have hi := List.idxOf_lt_length_iff.mpr hin
    exact ⟨filter_set_foreign _ _ new hi hop.2 (by rw [List.getElem_idxOf hi]; exact hop.1), nofun⟩
  | updateMany _ => exact hop.elim

/-- the frame step: a call that touches only other domains leaves everything recorded for `D` untouched —
    permission rules, role assignments and role links — whether it succeeds, is rejected or raises; in every
    configuration and from every state, so the frame needs no invariant -/
theorem frame_step (cfg : Cfg) (D : String) (s : St) (op : Op) (hop : Foreign D op) : SameIn D s (step cfg s op).1 := by
  have hch : C20.isChange op = true := by cases op <;> first | rfl | exact hop.elim
  refine step_of_commits cfg s op hch (SameIn.refl D s) fun ch hcm => ?_
  obtain ⟨h1, h2⟩ := hcm.foreign D hop
  exact sameIn_commit cfg D s ch h1 fun e => e ▸ h2

theorem frame_run (cfg : Cfg) (D : String) (ops : List Op) (s : St) (hf : ∀ op ∈ ops, Foreign D op) :
    SameIn D s (run cfg s ops) := by
  induction ops generalizing s with
  | nil => exact SameIn.refl D s
  | cons op ops ih =>
    exact (frame_step cfg D s op (hf op (by simp))).trans (ih (step cfg s op).1 fun o ho => hf o (by simp [ho]))

/-- C05, the frame step, as stated for the domain model and a duplicate-free policy -/
theorem foreign_step (cfg : Cfg) (hc : cfg.gCount = 3) (D : String) (s : St) (op : Op) (hop : Foreign D op)
    (hd : C09.NodupPol s.pol) : SameIn D s (step cfg s op).1 :=
  frame_step cfg D s op hop

/-! ## what is recorded for `D` determines every answer in `D` -/

theorem edgeIn_foreign (D : String) (l : Rule) (h : inDom .g D l = false) : C15.edgeIn D l = none := by
  rw [Option.eq_none_iff_forall_ne_some]
  intro e he
  rw [C15.edgeIn_eq_some.mp he] at h
  simp [inDom, domIdx] at h

theorem edgesOf_part (store : List Rule) (D : String) : edgesOf (part .g D store) (some D) = edgesOf store (some D) := by
  rw [C15.edgesOf_eq, C15.edgesOf_eq]
  unfold part
  induction store with
  | nil => rfl
  | cons l ls ih =>
    simp only [List.filter]
    cases hin : inDom .g D l with
    | true => simp only [List.filterMap_cons]; rw [ih]
    | false => simp only [List.filterMap_cons, edgeIn_foreign D l hin]; exact ih

theorem links_in_domain (s s' : St) (D : String) (h : part .g D s'.links.g = part .g D s.links.g) :
    (∀ n1 n2, hasLinkQ s'.links.g n1 n2 (some D) = hasLinkQ s.links.g n1 n2 (some D)) ∧
    (∀ n, getRoles s'.links.g n (some D) = getRoles s.links.g n (some D)) ∧
    (∀ n, getUsers s'.links.g n (some D) = getUsers s.links.g n (some D)) := by
  have he : edgesOf s'.links.g (some D) = edgesOf s.links.g (some D) := by
    rw [← edgesOf_part s'.links.g D, ← edgesOf_part s.links.g D, h]
  refine ⟨fun n1 n2 => ?_, fun n => ?_, fun n => ?_⟩
  · unfold hasLinkQ; rw [he]
  · unfold getRoles; rw [he]
  · unfold getUsers; rw [he]

/-- all permission rules have the model's four fields -/
def PSized (l : List Rule) : Prop := ∀ r ∈ l, r.length = 4

/-- the domain matcher on a well-sized rule -/
def matchD (links : Pol) (rs rd ro ra : String) (pv : Rule) : Bool :=
  match pv with
  | ps :: pd :: po :: pa :: _ => hasLinkQ links.g rs ps (some rd) && rd == pd && ro == po && ra == pa
  | _ => false

/-- the decision for a request in domain `rd ≠ ""` is "some rule matches" -/
theorem enforce_dom (s : St) (rs rd ro ra : String) (h : PSized s.pol.p) (hrd : rd ≠ "") :
    enforceQ .rbacDom s [rs, rd, ro, ra] = .ok (s.pol.p.any (matchD s.links rs rd ro ra)) := by
  by_cases hne : s.pol.p = []
  · -- an empty policy is judged once against empty rule fields, which the domain test `rd == ""` rejects
    rw [enforceQ, hne, C01.empty_policy _ _ _ rfl rfl rfl]
    simp [matcher, MVal.truthy, hrd, spec, Outcome.isAllow, Shape.arity, List.replicate]
  · exact C01.enforce_any _ _ _ _ _ rfl rfl rfl rfl hne fun pv hpv => ⟨h pv hpv, by
      match pv, h pv hpv with
      | [ps, pd, po, pa], _ => rfl⟩

theorem matchD_only_domain (links : Pol) (rs rd ro ra : String) (pv : Rule) (h : matchD links rs rd ro ra pv = true) :
    inDom .p rd pv = true := by
  unfold matchD at h
  split at h
  · rename_i ps pd po pa _
    simp only [Bool.and_eq_true, beq_iff_eq] at h
    obtain ⟨⟨⟨_, hd⟩, _⟩, _⟩ := h
    subst hd
    simp [inDom, domIdx]
  · cases h

theorem any_part (l : List Rule) (D : String) (m : Rule → Bool) (h : ∀ x, m x = true → inDom .p D x = true) :
    l.any m = (part .p D l).any m := by
  rw [part, List.any_filter]
  refine (List.any_congr rfl fun x => ?_).symm
  cases hm : m x with
  | false => simp
  | true => simp [h x hm]

theorem same_in_answers (D : String) (hD : D ≠ "") (s s' : St) (h : SameIn D s s') (hs : PSized s.pol.p)
    (hs' : PSized s'.pol.p) :
    (∀ n1 n2, hasLinkQ s'.links.g n1 n2 (some D) = hasLinkQ s.links.g n1 n2 (some D)) ∧
    (∀ n, getRoles s'.links.g n (some D) = getRoles s.links.g n (some D)) ∧
    (∀ n, getUsers s'.links.g n (some D) = getUsers s.links.g n (some D)) ∧
    (∀ rs ro ra, enforceQ .rbacDom s' [rs, D, ro, ra] = enforceQ .rbacDom s [rs, D, ro, ra]) := by
  obtain ⟨h1, h2, h3⟩ := links_in_domain s s' D h.lg
  refine ⟨h1, h2, h3, ?_⟩
  intro rs ro ra
  rw [enforce_dom s' rs D ro ra hs' hD, enforce_dom s rs D ro ra hs hD]
  congr 1
  have hm : ∀ pv, matchD s'.links rs D ro ra pv = matchD s.links rs D ro ra pv := by
    intro pv; unfold matchD; split
    · rw [h1]
    · rfl
  rw [any_part s'.pol.p D _ (fun x hx => matchD_only_domain _ _ _ _ _ x hx),
      any_part s.pol.p D _ (fun x hx => matchD_only_domain _ _ _ _ _ x hx), h.p]
  exact List.any_congr rfl hm

theorem foreign_run (cfg : Cfg) (hc : cfg.gCount = 3) (D : String) (ops : List Op) (s : St) (h : Coherent cfg s)
    (hok : RunOK cfg s ops) (hf : ∀ op ∈ ops, Foreign D op) : SameIn D s (run cfg s ops) :=
  frame_run cfg D ops s hf

/-- C05 (domain isolation): after any history of management calls that touch only domains other than `D` — adds,
    removes, batches, filtered removals, updates; successful, rejected or raising — every decision for a request
    in `D` and every role query scoped to `D` is what it was before. -/
theorem foreign_frame (cfg : Cfg) (hc : cfg.gCount = 3) (D : String) (hD : D ≠ "") (ops : List Op) (s : St)
    (h : Coherent cfg s) (hok : RunOK cfg s ops) (hf : ∀ op ∈ ops, Foreign D op)
    (hs : PSized s.pol.p) (hs' : PSized (run cfg s ops).pol.p) :
    (∀ n1 n2, hasLinkQ (run cfg s ops).links.g n1 n2 (some D) = hasLinkQ s.links.g n1 n2 (some D)) ∧
    (∀ n, getRoles (run cfg s ops).links.g n (some D) = getRoles s.links.g n (some D)) ∧
    (∀ n, getUsers (run cfg s ops).links.g n (some D) = getUsers s.links.g n (some D)) ∧
    (∀ rs ro ra, enforceQ .rbacDom (run cfg s ops) [rs, D, ro, ra] = enforceQ .rbacDom s [rs, D, ro, ra]) :=
  same_in_answers D hD s _ (foreign_run cfg hc D ops s h hok hf) hs hs'

/-- domain-scoped role queries report only what is recorded for the queried domain -/
theorem scoped_queries_filter (store : List Rule) (D : String) (n x : String) :
    (x ∈ getRoles store n (some D) → [n, x, D] ∈ store) ∧ (x ∈ getUsers store n (some D) → [x, n, D] ∈ store) := by
  simp only [getRoles, getUsers, List.mem_map, List.mem_filter, beq_iff_eq, C15.mem_edgesOf_dom]
  constructor <;> rintro ⟨e, ⟨he, rfl⟩, rfl⟩ <;> exact he

example : Foreign "d1" (.add .g ["bob", "admin", "d2"]) ∧ Foreign "d1" (.removeFiltered .g 0 ["", "", "d2"]) ∧
    Foreign "d1" (.removeFiltered .p 1 ["d2"]) ∧ ¬ Foreign "d1" (.add .p ["admin", "d1", "data1", "read"]) := by
  refine ⟨by show inDom _ _ _ = false; decide, ⟨2, "d2", by decide, by decide, by decide, by decide⟩,
    ⟨0, "d2", by decide, by decide, by decide, by decide⟩, by show ¬ (inDom _ _ _ = false); decide⟩

end Casbin.Enf.C05
