import CasbinV.Model.Policy
import CasbinV.Proofs.StableInsert
import CasbinV.Proofs.ListFacts
/-!
# C07 (second half) — subject priority: rules of a subject are consulted before rules of the roles it inherits from

Subject: `hierarchyLoop` / `hierarchyMap` (`Model.get_subject_hierarchy_map`) and `sortByKey`
(`sorted(policy, key=level of the rule's subject)`).
-/
namespace Casbin.Policy.C07b

/-- the loop invariant, relative to the full list of assignments `E` and all subjects `U` -/
structure HInv (E : List HEdge) (U : List String) (up : List HEdge) (us : List String) (k : Nat)
    (acc : List (String × Nat)) : Prop where
  /-- every assignment is still pending or its child already has a level -/
  edge : ∀ c p, (c, p) ∈ E → (c, p) ∈ up ∨ ∃ l, (c, l) ∈ acc
  /-- assigned levels are below the current round -/
  below : ∀ x l, (x, l) ∈ acc → l < k
  /-- a parent gets its level only after all its children: they sit strictly lower -/
  parent : ∀ c p, (c, p) ∈ E → ∀ l, (p, l) ∈ acc → ∃ l', l' < l ∧ (c, l') ∈ acc
  /-- every subject is assigned or still unsorted, never both; each at most once -/
  cover : ∀ x, x ∈ U → x ∈ us ∨ ∃ l, (x, l) ∈ acc
  disjoint : ∀ x l, (x, l) ∈ acc → x ∉ us
  unique : ∀ x l l', (x, l) ∈ acc → (x, l') ∈ acc → l = l'
  pending : ∀ c p, (c, p) ∈ up → (c, p) ∈ E

theorem hinv_init (E : List HEdge) (U : List String) : HInv E U E U 0 [] :=
  ⟨fun c p h => Or.inl h, by simp, by simp, fun x h => Or.inl h, by simp, by simp, fun c p h => h⟩

theorem mem_peelRound (up : List HEdge) (us : List String) (s : String) :
    s ∈ peelRound up us ↔ s ∈ us ∧ ∀ c, (c, s) ∉ up := by
  unfold peelRound
  simp only [List.mem_filter, Bool.not_eq_true', List.contains_eq_mem, decide_eq_false_iff_not, List.mem_map,
    not_exists, not_and]
  constructor
  · rintro ⟨h1, h2⟩
    exact ⟨h1, fun c hc => h2 (c, s) hc rfl⟩
  · rintro ⟨h1, h2⟩
    exact ⟨h1, fun e he hs => by cases e; simp at hs; subst hs; exact h2 _ he⟩

theorem mem_append_level (acc : List (String × Nat)) (us : List String) (k : Nat) (x : String) (l : Nat) :
    (x, l) ∈ acc ++ us.map (·, k) ↔ (x, l) ∈ acc ∨ (x ∈ us ∧ l = k) := by
  simp only [List.mem_append, List.mem_map, Prod.mk.injEq]
  refine or_congr_right ⟨?_, ?_⟩
  · rintro ⟨a, ha, rfl, rfl⟩
    exact ⟨ha, rfl⟩
  · rintro ⟨hx, rfl⟩
    exact ⟨x, hx, rfl, rfl⟩

theorem hinv_step (E : List HEdge) (U : List String) (up : List HEdge) (us : List String) (k : Nat)
    (acc : List (String × Nat)) (h : HInv E U up us k acc) :
    HInv E U (up.filter fun x => !(peelRound up us).contains x.1) (us.filter fun s => !(peelRound up us).contains s)
      (k + 1) (acc ++ (peelRound up us).map (·, k)) := by
  -- a level in the new map is an old one, or it is `k` and its subject is peeled in this round
  refine ⟨?_, ?_, ?_, ?_, ?_, ?_, fun c p hcp => h.pending c p (List.mem_filter.mp hcp).1⟩ <;>
    simp only [mem_append_level]
  · intro c p hE
    rcases h.edge c p hE with hup | ⟨l, hl⟩
    · by_cases hc : c ∈ peelRound up us
      · exact .inr ⟨k, .inr ⟨hc, rfl⟩⟩
      · exact .inl (List.mem_filter.mpr ⟨hup, by simpa using hc⟩)
    · exact .inr ⟨l, .inl hl⟩
  · rintro x l (h1 | ⟨_, rfl⟩)
    · exact Nat.lt_succ_of_lt (h.below x l h1)
    · exact Nat.lt_succ_self _
  · rintro c p hE l (h1 | ⟨hps, rfl⟩)
    · obtain ⟨l', hl', hc⟩ := h.parent c p hE l h1
      exact ⟨l', hl', .inl hc⟩
    · -- p is peeled now: no pending assignment has it as parent, so c was assigned in an earlier round
      rcases h.edge c p hE with hup | ⟨l', hl'⟩
      · exact absurd hup (((mem_peelRound up us p).mp hps).2 c)
      · exact ⟨l', h.below c l' hl', .inl hl'⟩
  · intro x hx
    rcases h.cover x hx with hus | ⟨l, hl⟩
    · by_cases hs : x ∈ peelRound up us
      · exact .inr ⟨k, .inr ⟨hs, rfl⟩⟩
      · exact .inl (List.mem_filter.mpr ⟨hus, by simpa using hs⟩)
    · exact .inr ⟨l, .inl hl⟩
  · rintro x l (h1 | ⟨hs, _⟩) hin
    · exact h.disjoint x l h1 (List.mem_filter.mp hin).1
    · simpa [hs] using (List.mem_filter.mp hin).2
  · rintro x l l' (a | ⟨a, rfl⟩) (b | ⟨b, rfl⟩)
    · exact h.unique x l l' a b
    · exact absurd ((mem_peelRound up us x).mp b).1 (h.disjoint x l a)
    · exact absurd ((mem_peelRound up us x).mp a).1 (h.disjoint x l' b)
    · rfl

/-- the map the loop answers satisfies the invariant with nothing pending and nobody unsorted: handing the last level
    to the subjects that are left is one more round, in which nobody is a parent any more -/
theorem hinv_loop (E : List HEdge) (U : List String) (fuel : Nat) (up : List HEdge) (us : List String) (k : Nat)
    (acc m : List (String × Nat)) (h : HInv E U up us k acc) (hm : hierarchyLoop fuel up us k acc = .ok m) :
    ∃ k', HInv E U [] [] k' m := by
  fun_induction hierarchyLoop fuel up us k acc with
  | case1 _ us k acc =>
    cases hm
    have e1 : peelRound [] us = us := List.filter_eq_self.mpr (by simp)
    have e2 : us.filter (fun s => !decide (s ∈ us)) = [] := List.filter_eq_nil_iff.mpr (by simp)
    exact ⟨k + 1, by simpa [e1, e2] using hinv_step E U [] us k acc h⟩
  | case2 | case3 => cases hm
  | case4 f e up us k acc _ _ ih => exact ih (hinv_step E U (e :: up) us k acc h) hm

/-- C07: whenever `get_subject_hierarchy_map` returns, every subject sits strictly below every role it is assigned to
    (so, transitively, below everything it inherits from: `level_lt_of_chain`) -/
theorem hierarchy_levels (E : List HEdge) (m : List (String × Nat)) (hm : hierarchyMap E = .ok m) :
    ∀ c p, (c, p) ∈ E → levelOf m c < levelOf m p := by
  obtain ⟨k', hinv⟩ := hinv_loop E (subjectsOf E) _ E (subjectsOf E) 0 [] _ (hinv_init E _) hm
  intro c p hE
  have hlev : ∀ x l, (x, l) ∈ m → levelOf m x = l := fun x l h => by
    rw [levelOf, lookup_of_unique h fun l' h' => hinv.unique x l' l h' h]; rfl
  -- the parent is a subject, so it has a level, and the child sits strictly below it
  have hpU : p ∈ subjectsOf E := by
    rw [subjectsOf, List.mem_eraseDups]
    exact List.mem_flatMap.mpr ⟨(c, p), hE, by simp⟩
  obtain ⟨lp, hlp⟩ := (hinv.cover p hpU).resolve_left (by simp)
  obtain ⟨lc, hlt, hlc⟩ := hinv.parent c p hE lp hlp
  rw [hlev c lc hlc, hlev p lp hlp]; exact hlt

/-- `c → x₁ → … → xₙ → a` along the assignments -/
def ChainTo (E : List HEdge) : String → List String → String → Prop
  | c, [], a => (c, a) ∈ E
  | c, x :: xs, a => (c, x) ∈ E ∧ ChainTo E x xs a

theorem level_lt_of_chain (E : List HEdge) (m : List (String × Nat)) (hm : hierarchyMap E = .ok m)
    (chain : List String) (c a : String) (hchain : ChainTo E c chain a) : levelOf m c < levelOf m a := by
  induction chain generalizing c with
  | nil => exact hierarchy_levels E m hm c a hchain
  | cons x xs ih =>
    have h1 := hierarchy_levels E m hm c x hchain.1
    have h2 := ih x hchain.2
    omega

theorem insertByKey_eq_insertAfter (key : Rule → Nat) (r : Rule) (l : List Rule) :
    insertByKey key r l = insertAfter (fun x => decide (key x ≤ key r)) r l := by
  induction l with
  | nil => rfl
  | cons x xs ih => simp [insertByKey, insertAfter, ih]

/-- ascending, the same rules; that the subject sort is stable is `sortBySubjectE_stable_sort` (Props/C11o) -/
theorem sortByKey_spec (key : Rule → Nat) (l : List Rule) :
    (sortByKey key l).Pairwise (fun a b => key a ≤ key b) ∧ (sortByKey key l).Perm l := by
  unfold sortByKey
  simp only [insertByKey_eq_insertAfter]
  have h := foldl_insertAfter_spec (fun x r => decide (key x ≤ key r))
    (fun a b h => by simp at h ⊢; omega) (fun a b c h1 h2 => by simp at h1 h2 ⊢; omega) l [] .nil
  exact ⟨h.1.imp of_decide_eq_true, h.2.1⟩

/-- C07: in the sorted policy a rule that stands before another has a key that is not greater.
    Read with `key` = level of the rule's subject (`sortBySubjectHierarchy`; Props/C11o `sortBySubjectE_eq_ok_iff` puts
    the load in that form) and `hierarchy_levels` / `level_lt_of_chain`: a rule given to a role never stands before a
    rule given to a subject that inherits from it, so under the priority effect (C01: the first definite match decides)
    the more specific subject wins. -/
theorem lower_level_first (key : Rule → Nat) (l : List Rule) (pre mid post : List Rule) (r1 r2 : Rule)
    (hsplit : sortByKey key l = pre ++ (r2 :: (mid ++ (r1 :: post)))) : key r2 ≤ key r1 := by
  have hs := (sortByKey_spec key l).1
  rw [hsplit] at hs
  have := (List.pairwise_append.mp hs).2.1
  have h2 := (List.pairwise_cons.mp this).1
  exact h2 r1 (List.mem_append_right _ (List.mem_cons_self ..))

example : hierarchyMap [("::alice", "::admin"), ("::admin", "::root"), ("::bob", "::admin")] =
    .ok [("::alice", 0), ("::bob", 0), ("::admin", 1), ("::root", 2)] := by decide

example : hierarchyMap [("::a", "::b"), ("::b", "::a")] = .error .cycle := by decide

example : sortBySubjectHierarchy none [["alice", "admin"], ["admin", "root"]]
    [["root", "data1", "read", "deny"], ["alice", "data1", "read", "allow"], ["admin", "data1", "read", "deny"]] =
    .ok [["alice", "data1", "read", "allow"], ["admin", "data1", "read", "deny"], ["root", "data1", "read", "deny"]] := by
  decide

end Casbin.Policy.C07b
