import CasbinV.Props.C06
/-!
# C06 (read-fed batch calls) — feeding the result of a read back into a batch removal

`remove_policies(get_policy())` and `remove_policies(get_filtered_policy(i, v…))`: the call succeeds and removes exactly
the rules the read selected (F25, DESIGN 11.3).
-/
namespace Casbin.Policy.C06

theorem removeMany_of_subset (l rs : List Rule) (hs : ∀ r ∈ rs, r ∈ l) : (removeMany l rs).2 = true := by
  rw [removeMany_result]
  simpa using hs

theorem removeMany_filter_eq (l : List Rule) (p : Rule → Bool) (hd : l.Nodup) :
    removeMany l (l.filter p) = (l.filter fun x => !p x, true) := by
  rw [removeMany_refines l _ hd, Spec.removeMany, if_pos (by simp +contextual)]
  simp only [filter_not_contains_filter]

/-- `removeMany_filter_eq` by its consequences: success, exactly the selection gone, the order of the rest kept -/
theorem removeMany_filter (l : List Rule) (p : Rule → Bool) (hd : l.Nodup) :
    (removeMany l (l.filter p)).2 = true ∧
    (∀ x, x ∈ (removeMany l (l.filter p)).1 ↔ x ∈ l ∧ p x = false) ∧
    ((removeMany l (l.filter p)).1).Sublist l := by
  simp [removeMany_filter_eq l p hd]

/-- `remove_policies(get_policy())` empties the rule set -/
theorem removeMany_self (l : List Rule) (hd : l.Nodup) : removeMany l l = ([], true) := by
  simpa [List.filter_eq_self.mpr, List.filter_eq_nil_iff.mpr] using removeMany_filter_eq l (fun _ => true) hd

/-- `remove_policies(get_filtered_policy(idx, vals…))` succeeds and leaves the rules `remove_filtered_policy(idx, vals…)`
    leaves (stated for membership; `removeMany_filter_eq` gives the list itself) -/
theorem removeMany_getFiltered (l : List Rule) (idx : Nat) (vals : List String) (hd : l.Nodup)
    (h : InRange idx vals l) :
    ∃ rs, getFiltered l idx vals = .ok rs ∧ (removeMany l rs).2 = true ∧
      ∀ x, x ∈ (removeMany l rs).1 ↔ x ∈ (Spec.removeFiltered l idx vals).1 :=
  ⟨_, getFiltered_exact l idx vals h, by simp [Spec.getFiltered, Spec.removeFiltered, removeMany_filter_eq l _ hd]⟩

example : removeMany [["a", "b"], ["c", "d"], ["e", "f"]] [["a", "b"], ["c", "d"], ["e", "f"]] = ([], true) := by decide

end Casbin.Policy.C06
