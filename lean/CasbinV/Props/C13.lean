import CasbinV.Model.Builtin
import CasbinV.Spec.Builtin
import CasbinV.Gen.FunctionTable
import CasbinV.Proofs.ListFacts
import CasbinV.Proofs.EvalVector
/-!
# C13 — built-in matching functions implement their documented pattern languages

Subjects: the definitions of `Model/Builtin.lean` (tied to `casbin/util/builtin_operators.py` by the differential
run of `tools/harness/props/c13.py`) and the table regenerated from `casbin/model/function.py` + the `*_func`
wrappers by translator T4 (`Gen/FunctionTable.lean`). Specifications: `Spec/Builtin.lean`.

keyMatch, keyGet and glob are characterised for ALL patterns and keys (ipMatch, wherever both texts denote: in
`Props/C13Ip.lean`). The regex family (keyMatch2–5, keyGet2/3) takes two steps, generic in the variable syntax: the rewrite of a
documented-form pattern parses to the pattern's nodes (`compile_doc`), and the backtracking matcher on those nodes
decides the denotation (`matchNodes_denK`) or, for patterns in `detForm`, has one match (`matchNodes_caps`); the key
is arbitrary, line feeds included (the regex is compiled with `(?s)` and anchored with `\Z`). One loop, `runB`, reads
`*` and the variables in glob and in the regex family. `…_eq_spec`: the driver's `spec=` column is the right-hand side
of the property theorems.

The documented-form hypotheses (`docTok2`/`tok3`/`tok5 = some _`, `detForm`) cannot be dropped: outside them `re`'s
own semantics applies (F21: `keyMatch3 k "*"` raises; `{x}/*{x}`), see the `example`s next to the theorems.
-/
namespace Casbin.C13
open Casbin.Builtin Casbin.Builtin.Spec

/-! ## T4: every matcher-visible name reaches the right function with the arguments in order -/

def resolve (name : String) : Option (String × List Nat) :=
  (Gen.functionMap.lookup name).bind fun w =>
    match Gen.wrappers.lookup w with
    | some (.call callee pos) => some (callee, pos)
    | _ => none

/-- matcher-visible name ↦ the function of `builtin_operators.py` it must reach, called as `f(args[0], args[1])` -/
def expectedFunctions : List (String × String) := [
  ("keyMatch", "key_match"), ("keyMatch2", "key_match2"), ("keyMatch3", "key_match3"),
  ("keyMatch4", "key_match4"), ("keyMatch5", "key_match5"), ("regexMatch", "regex_match"),
  ("ipMatch", "ip_match"), ("globMatch", "glob_match")]

theorem function_table :
    ∀ e ∈ expectedFunctions, resolve e.1 = some (e.2, [0, 1]) := by
  decide +kernel

/-- no matcher-visible name is registered twice (a later registration would silently replace the earlier one) -/
theorem function_names_nodup : (Gen.functionMap.map (·.1)).Nodup := by
  decide +kernel

example : resolve "globMatch" = some ("glob_match", [0, 1]) := by decide +kernel

/-! ## keyMatch / keyGet : `*` = any remainder

The text before the first `c` is `takeWhile (· != c)`: `beforeStar`, `dropQuery`, `takeSeg` and `findIdx` read so. -/

theorem eq_takeWhile_ne {f : Str → Str} {c : Char} (hnil : f [] = [])
    (hcons : ∀ x s, f (x :: s) = if x = c then [] else x :: f s) (s : Str) : f s = s.takeWhile (· != c) := by
  induction s with
  | nil => exact hnil
  | cons x s ih => by_cases hx : x = c <;> simp [hcons, hx, ih]

theorem beforeStar_eq (p : Str) : beforeStar p = p.takeWhile (· != '*') := eq_takeWhile_ne rfl (fun _ _ => rfl) p

theorem dropQuery_eq (k : Str) : dropQuery k = k.takeWhile (· != '?') := eq_takeWhile_ne rfl (fun _ _ => rfl) k

theorem takeSeg_eq (s : Str) : takeSeg s = s.takeWhile (· != '/') := eq_takeWhile_ne rfl (fun _ _ => rfl) s

theorem takeSeg_noSlash (s : Str) : '/' ∉ takeSeg s :=
  takeSeg_eq s ▸ not_mem_takeWhile_ne '/' s

theorem findIdx_eq (c : Char) (p : Str) :
    findIdx c p = if p.contains c then some (p.takeWhile (· != c)).length else none := by
  induction p with
  | nil => rfl
  | cons x s ih =>
    by_cases hx : x = c
    · simp [findIdx, hx]
    · simp only [findIdx, hx, if_false, ih, List.contains_cons, beq_eq_false_iff_ne.2 (Ne.symm hx), Bool.false_or]
      split <;> simp [hx]

/-- Python's `k[:i] == p[:i]` / `k == p[:i]` test with `i = len(pre)` is the prefix test -/
theorem isPrefixOf_take (pre k : Str) :
    pre.isPrefixOf k = (if k.length > pre.length then k.take pre.length == pre else k == pre) := by
  rw [Bool.eq_iff_iff, List.isPrefixOf_iff_prefix, List.prefix_iff_eq_take]
  split
  · rw [beq_iff_eq, eq_comm]
  · rw [List.take_of_length_le (by omega), beq_iff_eq, eq_comm]

theorem take_beforeStar (p : Str) : p.take (beforeStar p).length = beforeStar p := by
  rw [beforeStar_eq]; exact (List.prefix_iff_eq_take.1 (List.takeWhile_prefix _)).symm

theorem keyMatch_eq_spec (k p : Str) : keyMatch k p = keyMatchSpec k p := by
  rw [keyMatch, keyMatchSpec, findIdx_eq, isPrefixOf_take, ← beforeStar_eq]
  cases p.contains '*' <;> simp [take_beforeStar]

theorem keyGet_eq_spec (k p : Str) : keyGet k p = keyGetSpec k p := by
  rw [keyGet, keyGetSpec, findIdx_eq, isPrefixOf_take, ← beforeStar_eq]
  cases p.contains '*'
  · rfl
  · by_cases hl : k.length > (beforeStar p).length
    · simp [take_beforeStar, hl]
    · by_cases he : k = beforeStar p <;> simp [hl, he]

theorem exists_star_split (p k : Str) :
    (∃ pre post, p = pre ++ '*' :: post ∧ '*' ∉ pre ∧ pre <+: k) ↔ p.contains '*' = true ∧ beforeStar p <+: k := by
  rw [beforeStar_eq]
  constructor
  · rintro ⟨pre, post, rfl, hn, hk⟩; exact ⟨by simp, by rwa [takeWhile_ne_append post hn]⟩
  · rintro ⟨hc, hk⟩
    obtain ⟨post, hp⟩ := eq_takeWhile_ne_append (List.contains_iff_mem.1 hc)
    exact ⟨_, post, hp, not_mem_takeWhile_ne _ _, hk⟩

/-- `key_match`: a pattern without `*` matches itself only; otherwise it matches every key that starts with the text
    before its first `*` (whatever follows that `*` in the pattern is ignored) -/
theorem keyMatch_spec (k p : Str) :
    keyMatch k p = true ↔
      ('*' ∉ p ∧ k = p) ∨ (∃ pre post, p = pre ++ '*' :: post ∧ '*' ∉ pre ∧ pre <+: k) := by
  rw [keyMatch_eq_spec, keyMatchSpec, exists_star_split, ← List.contains_iff_mem, ← List.isPrefixOf_iff_prefix]
  cases p.contains '*' <;> simp

/-- `key_get` returns the key without the text before the pattern's first `*` (what that `*` stands for), and the empty
    text when the pattern has no `*` or the key does not start with the text before it -/
theorem keyGet_spec (k p : Str) :
    (∀ pre post rest, p = pre ++ '*' :: post → '*' ∉ pre → k = pre ++ rest → keyGet k p = rest) ∧
    ((¬ ∃ pre post, p = pre ++ '*' :: post ∧ '*' ∉ pre ∧ pre <+: k) → keyGet k p = []) := by
  rw [keyGet_eq_spec, keyGetSpec, exists_star_split, ← List.isPrefixOf_iff_prefix, ← Bool.and_eq_true]
  constructor
  · rintro pre post rest rfl hn rfl
    simp [beforeStar_eq, takeWhile_ne_append post hn]
  · exact fun h => if_neg h

example : keyGet "/foo/bar/foo".toList "/foo/*".toList = "bar/foo".toList := by eval_vector
example : keyMatch "/foo/bar".toList "/foo/*".toList = true := by eval_vector
example : keyMatch "/foo".toList "/foo/*".toList = false := by eval_vector

/-! ## rangeMatch -/

/-- `range_match` parses the class (`parseClass`, independent of the tested character), then tests membership
    (xor negation); `none` is Python's `-1`, `some rest` the new pattern position. -/
theorem rangeMatch_spec (p : Str) (t : Char) :
    rangeMatch p t =
      (parseClass p).bind (fun r => if inItems t r.2.1 != r.1 then some r.2.2 else none) := by
  cases p with
  | nil => rfl
  | cons c p' =>
    simp only [rangeMatch, parseClass, rangeLoop_items]
    generalize classItems _ _ = o
    rcases o with _ | ⟨its, rest⟩
    · rfl
    · cases inItems t its <;> cases (c == '!' || c == '^') <;> simp

example : rangeMatch "a-c]x".toList 'b' = some ['x'] := by eval_vector
example : rangeMatch "!a-c]x".toList 'b' = none := by eval_vector

/-! ## The loop behind `*` and the variables, in glob and in the regex family -/

/-- some split `s = w ++ s'` with every character of `w` satisfying `ok` (and `w ≠ []` unless `canStop`)
    has `k s'` -/
def runB (ok : Char → Bool) (k : Str → Bool) : Bool → Str → Bool
  | canStop, [] => canStop && k []
  | canStop, c :: s => (ok c && runB ok k true s) || (canStop && k (c :: s))

theorem runB_dot (k : Str → Bool) (s : Str) :
    runB Atom.dot.ok k true s = anySuffix k s := by
  induction s with
  | nil => simp [runB, anySuffix]
  | cons c s ih => simp [runB, anySuffix, Atom.ok, ih, Bool.or_comm]

theorem runB_notSlash (k : Str → Bool) (s : Str) :
    runB Atom.notSlash.ok k true s = anyRun k s := by
  induction s with
  | nil => simp [runB, anyRun]
  | cons c s ih => simp [runB, anyRun, Atom.ok, ih, Bool.or_comm]

theorem runB_iff (ok : Char → Bool) (k : Str → Bool) (cs : Bool) (s : Str) :
    runB ok k cs s = true ↔
      ∃ w s', s = w ++ s' ∧ (∀ c ∈ w, ok c = true) ∧ (cs = true ∨ w ≠ []) ∧ k s' = true := by
  induction s generalizing cs with
  | nil =>
    simp only [runB, Bool.and_eq_true]
    constructor
    · rintro ⟨hc, hk⟩; exact ⟨[], [], rfl, by simp, Or.inl hc, hk⟩
    · rintro ⟨w, s', e, _, hc, hk⟩
      obtain ⟨rfl, rfl⟩ := List.append_eq_nil_iff.1 e.symm
      exact ⟨hc.resolve_right (by simp), hk⟩
  | cons c s ih =>
    simp only [runB, Bool.or_eq_true, Bool.and_eq_true, ih]
    constructor
    · rintro (⟨hc, w, s', rfl, hw, _, hk⟩ | ⟨hc, hk⟩)
      · exact ⟨c :: w, s', rfl, by simpa [hc] using hw, Or.inr (by simp), hk⟩
      · exact ⟨[], c :: s, rfl, by simp, Or.inl hc, hk⟩
    · rintro ⟨w, s', e, hw, hc, hk⟩
      cases w with
      | nil => exact Or.inr ⟨hc.resolve_right (by simp), by rwa [← List.nil_append s', ← e] at hk⟩
      | cons d w =>
        obtain ⟨rfl, rfl⟩ := List.cons_eq_cons.1 e
        exact Or.inl ⟨hw c (by simp), w, s', rfl, fun x hx => hw x (by simp [hx]), Or.inl trivial, hk⟩

theorem notSlash_ok_iff (w : Str) : (∀ c ∈ w, Atom.notSlash.ok c = true) ↔ '/' ∉ w := by
  simp only [Atom.ok, bne_iff_ne, ne_eq]
  exact ⟨fun h hm => h _ hm rfl, fun h c hc e => h (e ▸ hc)⟩

theorem anySuffix_iff (k : Str → Bool) (s : Str) :
    anySuffix k s = true ↔ ∃ w s', s = w ++ s' ∧ k s' = true := by
  rw [← runB_dot, runB_iff]
  simp [Atom.ok]

theorem anyRun_iff (k : Str → Bool) (s : Str) :
    anyRun k s = true ↔ ∃ w s', s = w ++ s' ∧ '/' ∉ w ∧ k s' = true := by
  rw [← runB_notSlash, runB_iff]
  simp [notSlash_ok_iff]

/-! ## glob: the matcher equals the pathname-glob denotation, for ALL patterns and strings -/

theorem den_star (ts : List GTok) : den (.star :: ts) = anyRun (den ts) := by
  funext s
  induction s with
  | nil => simp [den, anyRun]
  | cons c s ih => rw [den, ih]; rfl

theorem anyRun_anyRun (k : Str → Bool) : anyRun (anyRun k) = anyRun k := by
  funext s
  induction s with
  | nil => rfl
  | cons c s ih => simp only [anyRun, ih]; cases k (c :: s) <;> simp

theorem den_star_star (ts : List GTok) : den (.star :: .star :: ts) = den (.star :: ts) := by
  rw [den_star, den_star, anyRun_anyRun]

theorem den_star_nil (s : Str) : den [.star] s = noSlash s := by
  rw [den_star]
  induction s <;> simp [anyRun, den, noSlash, *]

theorem den_star_slash (ts : List GTok) (s : Str) :
    den (.star :: .lit '/' :: ts) s =
      (match afterSlash s with | none => false | some s' => den ts s') := by
  rw [den_star]
  induction s with
  | nil => simp [anyRun, den, afterSlash]
  | cons c s ih => by_cases hc : c = '/' <;> simp [anyRun, den, afterSlash, hc, ih, bne, beq_false_of_ne]

theorem starLoop_den (ts : List GTok) (s : Str) (h : den ts [] = false) :
    starLoop (den ts) s = den (.star :: ts) s := by
  rw [den_star]
  induction s <;> simp [starLoop, anyRun, *]

theorem tokenize_star (p : Str) : tokenize ('*' :: p) = .star :: tokenize p := by
  rw [tokenize]

theorem den_tokenize_stars (p : Str) (s : Str) :
    den (.star :: tokenize p) s = den (.star :: tokenize (dropStars p)) s := by
  fun_induction dropStars p with
  | case1 p ih => rw [tokenize_star, den_star_star, ih]
  | case2 p h => rfl

theorem dropStars_head (p : Str) (q : Str) : dropStars p ≠ '*' :: q := by
  fun_induction dropStars p with
  | case1 p ih => exact ih
  | case2 p h => intro e; exact h q e

theorem tokenize_lit (c : Char) (p : Str) (h1 : c ≠ '?') (h2 : c ≠ '*') (h3 : c ≠ '\\') (h4 : c ≠ '[') :
    tokenize (c :: p) = .lit c :: tokenize p := by
  rw [tokenize.eq_def]
  split <;> simp_all

theorem tokenize_slash (p : Str) : tokenize ('/' :: p) = .lit '/' :: tokenize p :=
  tokenize_lit '/' p (by decide) (by decide) (by decide) (by decide)

theorem den_head_needs_char (c : Char) (q : Str) (hc : c ≠ '*') : den (tokenize (c :: q)) [] = false := by
  rw [tokenize.eq_def]
  split <;> simp_all [den]
  split <;> simp [den]

theorem tokenize_class (p : Str) :
    tokenize ('[' :: p) =
      (match parseClass p with
       | none => [.bad]
       | some (neg, items, rest) => .cls neg items :: tokenize rest) := by
  rw [tokenize]
  split <;> simp_all

theorem den_class (p' : Str) (x : Char) (s : Str) (hx : ¬ x = '/') :
    den (tokenize ('[' :: p')) (x :: s) =
      (match rangeMatch p' x with | none => false | some rest => den (tokenize rest) s) := by
  rw [tokenize_class, rangeMatch_spec]
  cases h : parseClass p' with
  | none => simp [den]
  | some r =>
    obtain ⟨neg, its, rest⟩ := r
    have h2 : (x != '/') = true := by simp [hx]
    simp only [Option.bind_some, den, h2, Bool.true_and]
    cases inItems x its != neg <;> simp

/-- `glob_match` (with the fix of F09) answers exactly the denotation of the tokenised pattern, in which `*`, `?` and
    `[...]` never match '/'. No hypothesis on the pattern or the string. -/
theorem glob_spec (p s : Str) : glob p s = den (tokenize p) s := by
  -- cases: 1 empty pattern, 2-3 `?`, 4-7 `*` (last / before '/' / before another token), 8-11 class,
  -- 12-15 backslash, 16-17 literal
  fun_induction glob p s with
  | case1 s => simp [tokenize, den]
  | case2 p' => simp [tokenize, den]
  | case3 p' c s ih => simp [tokenize, den, ih]
  | case4 s p' h =>
    rw [tokenize_star, den_tokenize_stars, h]; simp [tokenize, den_star_nil]
  | case5 s p' q h hs =>
    rw [tokenize_star, den_tokenize_stars, h, tokenize_slash, den_star_slash, hs]
  | case6 s p' q h s' hs ih =>
    rw [tokenize_star, den_tokenize_stars, h, tokenize_slash, den_star_slash, hs, ih]
  | case7 s p' c q hc h ih =>
    have hstar : c ≠ '*' := by intro e; subst e; exact dropStars_head p' q h
    rw [tokenize_star, den_tokenize_stars, h]
    rw [show (fun s'' => glob (c :: q) s'') = den (tokenize (c :: q)) from funext ih]
    exact starLoop_den _ _ (den_head_needs_char c q hstar)
  | case8 p' => rw [tokenize_class]; split <;> simp [den]
  | case9 p' s => rw [tokenize_class]; split <;> simp [den]
  | case10 p' x s hx h => rw [den_class _ _ _ hx, h]
  | case11 p' x s hx rest h ih => rw [den_class _ _ _ hx, h, ih]
  | case12 => simp [tokenize, den]
  | case13 c s ih => simp [tokenize, den, ih]
  | case14 e p' => simp [tokenize, den]
  | case15 e p' c s ih => simp [tokenize, den, ih]
  | case16 c p' h1 h2 h3 h4 h5 =>
    have hb : c ≠ '\\' := fun e => by cases p' with | nil => exact h4 e rfl | cons a q => exact h5 a q e rfl
    rw [tokenize_lit c p' h1 h2 hb h3]
    simp [den]
  | case17 c p' h1 h2 h3 h4 h5 x s ih =>
    have hb : c ≠ '\\' := fun e => by cases p' with | nil => exact h4 e rfl | cons a q => exact h5 a q e rfl
    rw [tokenize_lit c p' h1 h2 hb h3]
    simp [den, ih]

example : tokenize "*.t[a-c!]?".toList = [.star, .lit '.', .lit 't', .cls false [('a', 'c'), ('!', '!')], .any1] := by
  eval_vector
/-- F09's witness -/
example : glob "*a".toList "bb".toList = false := by eval_vector

/-- a string is denoted by a glob pattern (shell / pathname rules): a literal matches itself, `?` and a class one
    character other than '/', `*` any run of characters other than '/'; `bad` (dangling backslash in a class) nothing -/
inductive GDenotes : List GTok → Str → Prop
  | nil : GDenotes [] []
  | lit {c : Char} {ts : List GTok} {s : Str} : GDenotes ts s → GDenotes (.lit c :: ts) (c :: s)
  | any1 {x : Char} {ts : List GTok} {s : Str} : x ≠ '/' → GDenotes ts s → GDenotes (.any1 :: ts) (x :: s)
  | cls {x : Char} {neg : Bool} {items : List Item} {ts : List GTok} {s : Str} :
      x ≠ '/' → inItems x items ≠ neg → GDenotes ts s → GDenotes (.cls neg items :: ts) (x :: s)
  | star {ts : List GTok} {s : Str} (w : Str) : '/' ∉ w → GDenotes ts s → GDenotes (.star :: ts) (w ++ s)

theorem den_iff (ts : List GTok) (s : Str) : den ts s = true ↔ GDenotes ts s := by
  constructor
  · intro h
    induction ts generalizing s with
    | nil => rw [den, List.isEmpty_iff] at h; subst h; exact .nil
    | cons t ts ih =>
      cases t with
      | star =>
        obtain ⟨w, s', rfl, hw, hk⟩ := (anyRun_iff ..).1 (den_star ts ▸ h)
        exact .star w hw (ih _ hk)
      | bad => simp [den] at h
      | lit c =>
        cases s with
        | nil => simp [den] at h
        | cons x s => simp only [den, Bool.and_eq_true, beq_iff_eq] at h; exact h.1 ▸ .lit (ih _ h.2)
      | any1 =>
        cases s with
        | nil => simp [den] at h
        | cons x s => simp only [den, Bool.and_eq_true, bne_iff_ne] at h; exact .any1 h.1 (ih _ h.2)
      | cls neg items =>
        cases s with
        | nil => simp [den] at h
        | cons x s => simp only [den, Bool.and_eq_true, bne_iff_ne] at h; exact .cls h.1.1 h.1.2 (ih _ h.2)
  · intro h
    induction h with
    | nil => simp [den]
    | lit _ ih => simpa [den] using ih
    | any1 hx _ ih => simpa [den, hx] using ih
    | cls hx hi _ ih => simpa [den, hx, hi] using ih
    | star w hw _ ih => rw [den_star, anyRun_iff]; exact ⟨w, _, rfl, hw, ih⟩

/-- `glob_spec` with the denotation as a relation -/
theorem glob_denotes (p s : Str) : glob p s = true ↔ GDenotes (tokenize p) s := by
  rw [glob_spec, den_iff]

/-! ## The regex family, part 1: the backtracking matcher decides the denotation -/

theorem repG_isSome {α : Type} (ok : Char → Bool) (k : Str → Option α) (cs : Bool) (s : Str) :
    (repG ok k cs s).isSome = runB ok (fun x => (k x).isSome) cs s := by
  induction s generalizing cs with
  | nil => cases cs <;> simp [repG, runB]
  | cons c s ih =>
    simp only [repG, runB]
    cases hok : ok c
    · cases cs <;> simp
    · rw [← ih true]
      cases hr : repG ok k true s with
      | none => cases cs <;> simp
      | some x => simp

theorem repL_isSome {α : Type} (ok : Char → Bool) (k : Str → Option α) (cs : Bool) (s : Str) :
    (repL ok k cs s).isSome = runB ok (fun x => (k x).isSome) cs s := by
  induction s generalizing cs with
  | nil => cases cs <;> simp [repL, runB]
  | cons c s ih =>
    simp only [repL, runB]
    rw [← ih true]
    cases cs
    · cases hok : ok c <;> simp
    · cases hk : k (c :: s) with
      | none => cases hok : ok c <;> simp
      | some x => simp

theorem denK_star (ts : List KTok) (s : Str) : denK (.star :: ts) s = runB Atom.dot.ok (denK ts) true s :=
  (runB_dot _ s).symm

theorem denK_var (ts : List KTok) (s : Str) : denK (.var :: ts) s = runB Atom.notSlash.ok (denK ts) false s := by
  cases s <;> simp [denK, runB, runB_notSlash, Atom.ok]

/-- a key is denoted by a keyMatch2/3/5 pattern: literals match themselves, `*` any text,
    a variable one non-empty run of characters without '/' -/
inductive DenotesK : List KTok → Str → Prop
  | nil : DenotesK [] []
  | lit {c : Char} {ts : List KTok} {s : Str} : DenotesK ts s → DenotesK (.lit c :: ts) (c :: s)
  | star {ts : List KTok} {s : Str} (w : Str) : DenotesK ts s → DenotesK (.star :: ts) (w ++ s)
  | var {ts : List KTok} {s : Str} (w : Str) : w ≠ [] → '/' ∉ w → DenotesK ts s → DenotesK (.var :: ts) (w ++ s)

theorem denK_iff (ts : List KTok) (s : Str) : denK ts s = true ↔ DenotesK ts s := by
  constructor
  · intro h
    induction ts generalizing s with
    | nil => rw [denK, List.isEmpty_iff] at h; subst h; exact .nil
    | cons t ts ih =>
      cases t with
      | lit c =>
        cases s with
        | nil => simp [denK] at h
        | cons x s => simp only [denK, Bool.and_eq_true, beq_iff_eq] at h; exact h.1 ▸ .lit (ih _ h.2)
      | star =>
        obtain ⟨w, s', rfl, hk⟩ := (anySuffix_iff ..).1 h
        exact .star w (ih _ hk)
      | var =>
        obtain ⟨w, s', rfl, hw, hc, hk⟩ := (runB_iff ..).1 (denK_var ts s ▸ h)
        exact .var w (hc.resolve_left (by simp)) ((notSlash_ok_iff w).1 hw) (ih _ hk)
  · intro h
    induction h with
    | nil => rfl
    | lit _ ih => simpa [denK] using ih
    | star w _ ih => exact (anySuffix_iff ..).2 ⟨w, _, rfl, ih⟩
    | var w hne hs _ ih =>
      rw [denK_var, runB_iff]; exact ⟨w, _, rfl, (notSlash_ok_iff w).2 hs, Or.inr hne, ih⟩

/-- the regex node of a pattern token; `vn` = the node a variable is rewritten to -/
def nodeOfV (vn : Node) : KTok → Node
  | .lit c => { atom := .chr c, q := .one, cap := false }
  | .star => { atom := .dot, q := .star, cap := false }
  | .var => vn

/-- `[^/]+` without a capture (keyMatch2/3/5) -/
def vnPlain : Node := { atom := .notSlash, q := .plus, cap := false }

theorem atEnd_eq (s : Str) : atEnd s = s.isEmpty := rfl

theorem matchNodes_one (a : Atom) (cap : Bool) (r : List Node) (c : Char) (s : Str) :
    matchNodes (⟨a, .one, cap⟩ :: r) (c :: s) =
      (if a.ok c then (matchNodes r s).map (fun caps => ([c], caps)) else none).map
        (fun wc => if cap then wc.1 :: wc.2 else wc.2) := rfl
theorem matchNodes_star (a : Atom) (cap : Bool) (r : List Node) (s : Str) :
    matchNodes (⟨a, .star, cap⟩ :: r) s =
      (repG a.ok (matchNodes r) true s).map (fun wc => if cap then wc.1 :: wc.2 else wc.2) := rfl
theorem matchNodes_plus (a : Atom) (cap : Bool) (r : List Node) (s : Str) :
    matchNodes (⟨a, .plus, cap⟩ :: r) s =
      (repG a.ok (matchNodes r) false s).map (fun wc => if cap then wc.1 :: wc.2 else wc.2) := rfl
theorem matchNodes_plusLazy (a : Atom) (cap : Bool) (r : List Node) (s : Str) :
    matchNodes (⟨a, .plusLazy, cap⟩ :: r) s =
      (repL a.ok (matchNodes r) false s).map (fun wc => if cap then wc.1 :: wc.2 else wc.2) := rfl

/-- the matcher on a pattern's nodes succeeds exactly on the denoted keys — EVERY key, line feeds included (`.` is
    compiled with `(?s)`) -/
theorem matchNodes_denK (ts : List KTok) (s : Str) :
    (matchNodes (ts.map (nodeOfV vnPlain)) s).isSome = denK ts s := by
  induction ts generalizing s with
  | nil => cases s <;> rfl
  | cons t ts ih =>
    have hk : (fun x => (matchNodes (ts.map (nodeOfV vnPlain)) x).isSome) = denK ts := funext ih
    cases t with
    | lit c =>
      cases s with
      | nil => rfl
      | cons x s' =>
        simp only [List.map_cons, nodeOfV, matchNodes_one, denK, Atom.ok, ← ih s']
        by_cases hx : (x == c) = true <;> simp [hx]
    | star => simp only [List.map_cons, nodeOfV, matchNodes_star, Option.isSome_map, repG_isSome, hk, denK_star]
    | var =>
      rw [List.map_cons, show nodeOfV vnPlain .var = ⟨.notSlash, .plus, false⟩ from rfl, matchNodes_plus,
        Option.isSome_map, repG_isSome, hk, denK_var]

/-! ## The regex family, part 2: the rewrite of a documented-form pattern parses to the pattern's nodes -/

/-- the next regex character does not turn the preceding atom into something else (quantifier, `{m,n}`) -/
def headOK : Str → Bool
  | [] => true
  | h :: _ => !isQuantChar h && h != '{'

/-! ### the parser on the forms the rewrites emit -/

theorem isMeta_false (c : Char) (h : isMeta c = false) :
    c ≠ '.' ∧ c ≠ '^' ∧ c ≠ '$' ∧ c ≠ '*' ∧ c ≠ '+' ∧ c ≠ '?' ∧ c ≠ '{' ∧ c ≠ '}' ∧ c ≠ '[' ∧ c ≠ ']' ∧
    c ≠ '\\' ∧ c ≠ '|' ∧ c ≠ '(' ∧ c ≠ ')' := by
  simp only [isMeta, Bool.or_eq_false_iff, beq_eq_false_iff_ne] at h
  simp only [ne_eq, h, not_false_eq_true, and_self]

theorem headOK_of_not_meta (c : Char) (Y : Str) (h : isMeta c = false) : headOK (c :: Y) = true := by
  simp [headOK, isQuantChar, isMeta_false c h]

/-- what `headOK Y` says to the tests the parser makes on the text after an atom -/
theorem headOK_cases {Y : Str} (hY : headOK Y = true) :
    Y = [] ∨ ∃ h t, Y = h :: t ∧ h ≠ '*' ∧ h ≠ '+' ∧ h ≠ '?' ∧ braceQuant Y = false := by
  rcases Y with _ | ⟨h, t⟩
  · exact .inl rfl
  · simp [headOK, isQuantChar] at hY
    exact .inr ⟨h, t, rfl, hY.1.1.1, hY.1.1.2, hY.1.2, by cases t <;> simp [braceQuant, hY.2]⟩

theorem parseAtom_notSlash (r : Str) : parseAtom ('[' :: '^' :: '/' :: ']' :: r) = .ok .notSlash r := rfl
theorem parseAtom_notSlashEsc (r : Str) : parseAtom ('[' :: '^' :: '\\' :: '/' :: ']' :: r) = .ok .notSlash r := rfl
theorem parseAtom_dot (r : Str) : parseAtom ('.' :: r) = .ok .dot r := rfl

theorem parseAtom_chr (c : Char) (r : Str) (h : isMeta c = false) : parseAtom (c :: r) = .ok (.chr c) r := by
  simp [parseAtom, h, isMeta_false c h]

/-- how the rewrites spell a quantifier -/
def quantText : Quant → Str
  | .one => []
  | .star => ['*']
  | .plus => ['+']
  | .plusLazy => ['+', '?']

theorem parseQuant_text (q : Quant) (Y : Str) (hY : headOK Y = true) : parseQuant (quantText q ++ Y) = .ok q Y := by
  rcases headOK_cases hY with rfl | ⟨h, t, rfl, h1, h2, h3, h4⟩ <;> cases q <;>
    simp [quantText, parseQuant, isQuantChar, *]

theorem parseItem_plain {c : Char} {r r1 r2 : Str} {a : Atom} {q : Quant} (hc : c ≠ '(')
    (ha : parseAtom (c :: r) = .ok a r1) (hq : parseQuant r1 = .ok q r2) :
    parseItem (c :: r) = .ok { atom := a, q := q, cap := false } r2 := by
  simp only [parseItem, hc, if_false, ha, hq]

theorem parseItem_group {r r1 Y : Str} {a : Atom} {q : Quant}
    (ha : parseAtom r = .ok a r1) (hq : parseQuant r1 = .ok q (')' :: Y)) (hY : headOK Y = true) :
    parseItem ('(' :: r) = .ok { atom := a, q := q, cap := true } Y := by
  rcases headOK_cases hY with rfl | ⟨h, t, rfl, h1, h2, h3, h4⟩ <;> simp [parseItem, isQuantChar, *]

theorem parseItem_lit (c : Char) (Y : Str) (hc : isMeta c = false) (hY : headOK Y = true) :
    parseItem (c :: Y) = .ok { atom := .chr c, q := .one, cap := false } Y :=
  parseItem_plain (by rintro rfl; cases hc) (parseAtom_chr c Y hc) (parseQuant_text .one Y hY)

theorem parseItem_dotstar (Y : Str) (hY : headOK Y = true) :
    parseItem ('.' :: '*' :: Y) = .ok { atom := .dot, q := .star, cap := false } Y :=
  parseItem_plain (by decide) (parseAtom_dot _) (parseQuant_text .star Y hY)

/-- what the generic proof needs to know about the text a variable is replaced by: it parses to the node `vn`
    wherever the next character leaves that node alone, and does not itself alter the atom before it -/
structure Emits (emit : Str) (vn : Node) : Prop where
  parse : ∀ Y, headOK Y = true → parseItem (emit ++ Y) = .ok vn Y
  head : ∃ e es, emit = e :: es ∧ headOK [e] = true

/-- `[^\/]+` -/
theorem emits_notSlashEsc : Emits reNotSlashEsc vnPlain := by
  unfold reNotSlashEsc
  simp only [String.reduceToList]
  exact ⟨fun Y hY => parseItem_plain (by decide) (parseAtom_notSlashEsc _) (parseQuant_text .plus Y hY), _, _, rfl, rfl⟩

/-- `[^/]+` -/
theorem emits_notSlash : Emits reNotSlash vnPlain := by
  unfold reNotSlash
  simp only [String.reduceToList]
  exact ⟨fun Y hY => parseItem_plain (by decide) (parseAtom_notSlash _) (parseQuant_text .plus Y hY), _, _, rfl, rfl⟩

/-- `([^/]+)` -/
theorem emits_capNotSlash : Emits capNotSlash { atom := .notSlash, q := .plus, cap := true } := by
  unfold capNotSlash
  simp only [String.reduceToList]
  exact ⟨fun _ hY => parseItem_group (parseAtom_notSlash _) (parseQuant_text .plus _ rfl) hY, _, _, rfl, rfl⟩

/-- `([^\/]+)` -/
theorem emits_capNotSlashEsc : Emits capNotSlashEsc { atom := .notSlash, q := .plus, cap := true } := by
  unfold capNotSlashEsc
  simp only [String.reduceToList]
  exact ⟨fun _ hY => parseItem_group (parseAtom_notSlashEsc _) (parseQuant_text .plus _ rfl) hY, _, _, rfl, rfl⟩

/-- `([^/]+?)` -/
theorem emits_capNotSlashLazy : Emits capNotSlashLazy { atom := .notSlash, q := .plusLazy, cap := true } := by
  unfold capNotSlashLazy
  simp only [String.reduceToList]
  exact ⟨fun _ hY => parseItem_group (parseAtom_notSlash _) (parseQuant_text .plusLazy _ rfl) hY, _, _, rfl, rfl⟩

theorem parseRe_step (fuel : Nat) (c : Char) (r : Str) (n : Node) (rest : Str)
    (h : parseItem (c :: r) = .ok n rest) :
    parseRe (fuel + 1) (c :: r) = (parseRe fuel rest).map (fun ns => n :: ns) := by
  rw [parseRe, h]

theorem parseRe_item {pre rest : Str} {n : Node} {ns : List Node} (hp : pre ≠ [])
    (hi : parseItem (pre ++ rest) = .ok n rest) (hr : ∀ fuel, rest.length < fuel → parseRe fuel rest = .ok ns) :
    ∀ fuel, (pre ++ rest).length < fuel → parseRe fuel (pre ++ rest) = .ok (n :: ns) := by
  intro fuel hf
  obtain ⟨c, r, rfl⟩ := List.exists_cons_of_ne_nil hp
  cases fuel with
  | zero => cases hf
  | succ f =>
    have : rest.length < f := by simp at hf; omega
    rw [List.cons_append] at hi ⊢
    rw [parseRe_step f c _ n rest hi, hr f this]
    rfl

/-! ### the scanners on a documented-form pattern -/

theorem replSlashStar_cons (c : Char) (s : Str) (h : ∀ r, c = '/' → s ≠ '*' :: r) :
    replSlashStar (c :: s) = c :: replSlashStar s :=
  replSlashStar.eq_2 c s h

theorem replSlashStar_ne (c : Char) (s : Str) (h : c ≠ '/') : replSlashStar (c :: s) = c :: replSlashStar s :=
  replSlashStar_cons c s fun _ e => absurd e h

theorem takeSeg_repl (x : Str) : takeSeg (replSlashStar x) = takeSeg x := by
  fun_induction replSlashStar x with
  | case1 r ih => simp [takeSeg]
  | case2 c r h ih => simp [takeSeg, ih]
  | case3 => rfl

theorem noSlash_take_succ (c : Char) (s : Str) (n : Nat) (h : noSlash ((c :: s).take (n + 1)) = true) :
    c ≠ '/' ∧ noSlash (s.take n) = true := by
  simpa [noSlash] using h

theorem take_repl (x : Str) (m : Nat) (h : noSlash (x.take m) = true) :
    (replSlashStar x).take m = x.take m := by
  induction m generalizing x with
  | zero => simp
  | succ m ih =>
    cases x with
    | nil => simp [replSlashStar]
    | cons c s =>
      obtain ⟨hc, hs⟩ := noSlash_take_succ c s m h
      rw [replSlashStar_ne c s hc]
      simp [ih s hs]

/-- what the generic proof needs to know about a variable syntax (`:[^/]+`, `{[^/]+?}`, `{[^/]+}`) -/
structure VarSyntax (varLen : Str → Option Nat) : Prop where
  /-- a variable lies inside one segment -/
  inSeg : ∀ x m, varLen x = some m → noSlash (x.take m) = true
  /-- whether (and how long) a variable starts here depends only on the text up to the next '/' -/
  seg : ∀ x, varLen (takeSeg x) = varLen x
  /-- a variable does not start with `.` or `*` -/
  head : ∀ c s n, varLen (c :: s) = some (n + 1) → c ≠ '.' ∧ c ≠ '*'

theorem VarSyntax.cons_repl {varLen : Str → Option Nat} (V : VarSyntax varLen) (c : Char) (s : Str) :
    varLen (c :: replSlashStar s) = varLen (c :: s) := by
  rw [← V.seg, ← V.seg (c :: s)]
  simp only [takeSeg, takeSeg_repl]

/-- no variable starts at a character of `/.*` -/
theorem VarSyntax.copies {varLen : Str → Option Nat} (V : VarSyntax varLen) (c : Char)
    (hc : c = '/' ∨ c = '.' ∨ c = '*') (x : Str) (n : Nat) : varLen (c :: x) ≠ some (n + 1) := by
  intro hv
  rcases hc with rfl | rfl | rfl
  · simpa [noSlash] using V.inSeg _ _ hv
  · exact (V.head _ _ _ hv).1 rfl
  · exact (V.head _ _ _ hv).2 rfl

theorem subVar_copy {varLen : Str → Option Nat} (emit : Str) {c : Char} {s : Str}
    (h : ∀ n, varLen (c :: s) ≠ some (n + 1)) :
    subVar varLen emit 0 (c :: s) = c :: subVar varLen emit 0 s := by
  rw [subVar]
  split
  · rename_i n hn; exact absurd hn (h n)
  · rfl

theorem subVar_var {varLen : Str → Option Nat} (emit : Str) {c : Char} {s : Str} {n : Nat}
    (h : varLen (c :: s) = some (n + 1)) :
    subVar varLen emit 0 (c :: s) = emit ++ subVar varLen emit n s := by
  rw [subVar, h]

/-- `Doc varLen n p q ts`: what the scanners `subVar` and `namesVar`, with `n` characters still to skip, meet on a
    pattern `p` of the documented form with tokens `ts` and, in step with it, on `q = replSlashStar p`
    (`tokVar_doc`). Whatever is proved about the rewrites is proved by induction on this. -/
inductive Doc (varLen : Str → Option Nat) : Nat → Str → Str → List KTok → Prop
  | nil : Doc varLen 0 [] [] []
  | skip {n c s q ts} : Doc varLen n s q ts → Doc varLen (n + 1) (c :: s) (c :: q) ts
  | var {n c s q ts} : varLen (c :: s) = some (n + 1) → varLen (c :: q) = some (n + 1) →
      (c :: q).take (n + 1) = (c :: s).take (n + 1) → Doc varLen n s q ts → Doc varLen 0 (c :: s) (c :: q) (.var :: ts)
  | lit {c s q ts} : isMeta c = false → (∀ n, varLen (c :: s) ≠ some (n + 1)) →
      (∀ n, varLen (c :: q) ≠ some (n + 1)) → Doc varLen 0 s q ts → Doc varLen 0 (c :: s) (c :: q) (.lit c :: ts)
  /-- the `*` of `/*` (the '/' before it is a `lit`) -/
  | star {s q ts} : (∀ n, varLen ('*' :: s) ≠ some (n + 1)) → (∀ n, varLen ('.' :: '*' :: q) ≠ some (n + 1)) →
      (∀ n, varLen ('*' :: q) ≠ some (n + 1)) → Doc varLen 0 s q ts →
      Doc varLen 0 ('*' :: s) ('.' :: '*' :: q) (.star :: ts)

theorem tokVar_doc {varLen : Str → Option Nat} {okVar : Str → Bool} (V : VarSyntax varLen) {n : Nat} {p : Str}
    {ts : List KTok} (h : tokVar varLen okVar n p = some ts) (hn : noSlash (p.take n) = true) :
    Doc varLen n p (replSlashStar p) ts := by
  fun_induction tokVar varLen okVar n p generalizing ts with
  | case1 => cases h; exact .nil
  | case3 n c s ih =>
    obtain ⟨hc, hn'⟩ := noSlash_take_succ c s n hn
    rw [replSlashStar_ne c s hc]
    exact .skip (ih h hn')
  | case4 r ih =>
    obtain ⟨ts', h', rfl⟩ := Option.map_eq_some_iff.1 h
    rw [replSlashStar]
    exact .lit rfl (V.copies _ (by simp) _) (V.copies _ (by simp) _)
      (.star (V.copies _ (by simp) _) (V.copies _ (by simp) _) (V.copies _ (by simp) _) (ih h' rfl))
  | case5 c s hns n hv hok ih =>
    obtain ⟨ts', h', rfl⟩ := Option.map_eq_some_iff.1 h
    obtain ⟨hc, hn'⟩ := noSlash_take_succ c s n (V.inSeg _ _ hv)
    rw [replSlashStar_ne c s hc]
    exact .var hv (V.cons_repl c s ▸ hv) (by simp [take_repl s n hn']) (ih h' hn')
  | case8 c s hns hm hv ih =>
    obtain ⟨ts', h', rfl⟩ := Option.map_eq_some_iff.1 h
    rw [replSlashStar_cons c s hns]
    exact .lit (by simpa using hm) hv (fun n hn => hv n (V.cons_repl c s ▸ hn)) (ih h' rfl)
  | case2 | case6 | case7 => simp at h

theorem out_map_map {α β γ : Type} (x : Out α) (f : α → β) (g : β → γ) :
    (x.map f).map g = x.map (fun a => g (f a)) := by
  cases x <;> rfl

theorem compile_doc {varLen : Str → Option Nat} {emit : Str} {vn : Node} (E : Emits emit vn)
    {n : Nat} {p q : Str} {ts : List KTok} (h : Doc varLen n p q ts) :
    headOK (subVar varLen emit n q) = true ∧
    ∀ fuel, (subVar varLen emit n q).length < fuel →
      parseRe fuel (subVar varLen emit n q) = .ok (ts.map (nodeOfV vn)) := by
  obtain ⟨e, es, rfl, hE⟩ := E.head
  induction h with
  | nil => exact ⟨rfl, fun fuel hf => by cases fuel with | zero => cases hf | succ f => rfl⟩
  | skip _ ih => exact ih
  | var _ hv _ _ ih =>
    rw [subVar_var _ hv]
    exact ⟨hE, parseRe_item (List.cons_ne_nil e es) (E.parse _ ih.1) ih.2⟩
  | lit hm _ hv _ ih =>
    rw [subVar_copy _ hv]
    exact ⟨headOK_of_not_meta _ _ hm, parseRe_item (pre := [_]) (List.cons_ne_nil _ _) (parseItem_lit _ _ hm ih.1) ih.2⟩
  | star _ h1 h2 _ ih =>
    rw [subVar_copy _ h1, subVar_copy _ h2]
    exact ⟨rfl, parseRe_item (pre := ['.', '*']) (List.cons_ne_nil _ _) (parseItem_dotstar _ ih.1) ih.2⟩

/-- rewrite, then parse (generic in the variable syntax): for a pattern of the documented form, the text produced
    by `replace("/*", "/.*")` followed by the `re.sub` scanner parses (as a regex) to exactly the pattern's nodes.
    `hE1` … `hE3` are the fields of `Emits emit vn` written out; the proofs below use `compile_doc` directly. -/
theorem compile_tokVar (varLen : Str → Option Nat) (okVar : Str → Bool) (emit : Str) (vn : Node)
    (V : VarSyntax varLen)
    (hE1 : ∀ Y, headOK Y = true → parseItem (emit ++ Y) = .ok vn Y)
    (e : Char) (es : Str) (hE2 : emit = e :: es) (hE3 : headOK [e] = true)
    (n : Nat) (p : Str) :
    ∀ ts, tokVar varLen okVar n p = some ts → noSlash (p.take n) = true →
      headOK (subVar varLen emit n (replSlashStar p)) = true ∧
      ∀ fuel, (subVar varLen emit n (replSlashStar p)).length < fuel →
        parseRe fuel (subVar varLen emit n (replSlashStar p)) = .ok (ts.map (nodeOfV vn)) :=
  fun _ h hn => compile_doc ⟨hE1, e, es, hE2, hE3⟩ (tokVar_doc V h hn)

/-! ### the three variable syntaxes -/

theorem takeSeg_idem (s : Str) : takeSeg (takeSeg s) = takeSeg s := by
  rw [takeSeg_eq (takeSeg s)]; exact takeWhile_ne_self (takeSeg_noSlash s)

theorem noSlash_takeSeg (s : Str) : noSlash (s.take (takeSeg s).length) = true := by
  induction s with
  | nil => rfl
  | cons c s ih => by_cases h : c = '/' <;> simp [takeSeg, h, noSlash, ih]

theorem varSyntax_colon : VarSyntax varLenColon where
  inSeg := by
    intro x m h
    rcases x with _ | ⟨c, _ | ⟨d, s⟩⟩ <;> simp [varLenColon] at h
    obtain ⟨⟨rfl, hd⟩, rfl⟩ := h
    simp [Nat.add_comm 2, noSlash, hd, noSlash_takeSeg]
  seg := by
    intro x
    rcases x with _ | ⟨c, _ | ⟨d, s⟩⟩
    · rfl
    · by_cases h : c = '/' <;> simp [takeSeg, h, varLenColon]
    · by_cases h : c = '/'
      · subst h; simp [takeSeg, varLenColon]
      · by_cases h2 : d = '/'
        · subst h2; simp [takeSeg, h, varLenColon]
        · simp [takeSeg, h, h2, varLenColon, takeSeg_idem]
  head := by
    intro c s n h
    rcases s with _ | ⟨d, s⟩ <;> simp [varLenColon] at h
    simp [h.1.1]

theorem firstClose_takeSeg (s : Str) : firstClose (takeSeg s) = firstClose s := by
  induction s with
  | nil => rfl
  | cons c s ih =>
    by_cases h : c = '/'
    · subst h; simp [takeSeg, firstClose]
    · by_cases h2 : c = '}' <;> simp [takeSeg, firstClose, h, h2, ih]

theorem firstClose_noSlash (s : Str) (j : Nat) (h : firstClose s = some j) : noSlash (s.take (j + 1)) = true := by
  induction s generalizing j with
  | nil => simp [firstClose] at h
  | cons c s ih =>
    simp only [firstClose] at h
    split at h
    · cases h; simp [noSlash, *]
    · split at h
      · cases h
      · obtain ⟨i, hi, rfl⟩ := Option.map_eq_some_iff.1 h
        simp [noSlash, *, ih i hi]

theorem varSyntax_braceLazy : VarSyntax varLenBraceLazy where
  inSeg := by
    intro x m h
    rcases x with _ | ⟨c, _ | ⟨d, s⟩⟩ <;> simp [varLenBraceLazy] at h
    obtain ⟨⟨rfl, hd⟩, j, hj, rfl⟩ := h
    simp [noSlash, hd, firstClose_noSlash s j hj]
  seg := by
    intro x
    rcases x with _ | ⟨c, _ | ⟨d, s⟩⟩
    · rfl
    · by_cases h : c = '/' <;> simp [takeSeg, h, varLenBraceLazy]
    · by_cases h : c = '/'
      · subst h; simp [takeSeg, varLenBraceLazy]
      · by_cases h2 : d = '/'
        · subst h2; simp [takeSeg, h, varLenBraceLazy]
        · simp [takeSeg, h, h2, varLenBraceLazy, firstClose_takeSeg]
  head := by
    intro c s n h
    rcases s with _ | ⟨d, s⟩ <;> simp [varLenBraceLazy] at h
    simp [h.1.1]

theorem lastClose_takeSeg (s : Str) : lastClose (takeSeg s) = lastClose s := by
  induction s with
  | nil => rfl
  | cons c s ih =>
    by_cases h : c = '/'
    · subst h; simp [takeSeg, lastClose]
    · simp [takeSeg, lastClose, h, ih]

theorem lastClose_noSlash (s : Str) (i : Nat) (h : lastClose s = some i) : noSlash (s.take (i + 1)) = true := by
  induction s generalizing i with
  | nil => simp [lastClose] at h
  | cons c s ih =>
    simp only [lastClose] at h
    split at h
    · cases h
    · split at h
      · rename_i j hj; cases h; simp [noSlash, *, ih j hj]
      · split at h <;> cases h; simp [noSlash, *]

theorem varSyntax_braceGreedy : VarSyntax varLenBraceGreedy where
  inSeg := by
    intro x m h
    rcases x with _ | ⟨c, s⟩ <;> simp only [varLenBraceGreedy] at h
    · cases h
    · split at h
      · split at h <;> cases h
        rename_i hc _ i hi
        simp [noSlash, hc, lastClose_noSlash s (i + 1) hi]
      · cases h
  seg := by
    intro x
    rcases x with _ | ⟨c, s⟩
    · rfl
    · by_cases h : c = '/'
      · subst h; simp [takeSeg, varLenBraceGreedy]
      · simp [takeSeg, h, varLenBraceGreedy, lastClose_takeSeg]
  head := by
    intro c s n h
    simp only [varLenBraceGreedy] at h
    split at h
    · rename_i hc; rw [hc]; decide
    · cases h

/-! ### keyMatch2 / keyMatch3 / keyMatch5 on documented-form patterns -/

/-- rewrite, parse, then match: `re.match` on the rewritten pattern runs the matcher on the pattern's nodes; and
    the rewritten pattern is not the text `*`, which `key_match2` / `key_get2` / `key_get3` replace by `(.*)` -/
theorem reMatchBody_tokVar {varLen : Str → Option Nat} {okVar : Str → Bool} {emit : Str} {vn : Node}
    (V : VarSyntax varLen) (E : Emits emit vn) {p : Str} {ts : List KTok} (h : tokVar varLen okVar 0 p = some ts) :
    subVar varLen emit 0 (replSlashStar p) ≠ starStr ∧
    ∀ k, reMatchBody (subVar varLen emit 0 (replSlashStar p)) k = .ok (matchNodes (ts.map (nodeOfV vn)) k) := by
  obtain ⟨hH, hP⟩ := compile_doc E (tokVar_doc V h rfl)
  refine ⟨fun he => ?_, fun k => ?_⟩
  · rw [he] at hH; cases hH
  · simp only [reMatchBody, hP _ (Nat.lt_succ_self _), Out.map]

/-- the pattern `*` of `key_match2` / `key_get2` becomes `(.*)` -/
theorem reMatchBody_capAll (k : Str) :
    reMatchBody capAll k = .ok (matchNodes [{ atom := .dot, q := .star, cap := true }] k) := by
  have : parseRe (capAll.length + 1) capAll = .ok [{ atom := .dot, q := .star, cap := true }] := by decide +kernel
  simp only [reMatchBody, this, Out.map]

/-- keyMatch2: for every pattern of the documented form (`docTok2 p = some ts`: literals that are not special
    to `re`, `*` directly after '/', or alone, `:name` up to the next '/') and EVERY key, the function
    answers exactly the denotation: `*` = any text, `:name` = one non-empty run without '/'. Never raises. -/
theorem keyMatch2_spec (k p : Str) (ts : List KTok) (hdoc : docTok2 p = some ts) :
    keyMatch2 k p = .ok (denK ts k) := by
  unfold docTok2 at hdoc
  split at hdoc
  · rename_i hp; subst hp; cases hdoc
    have := matchNodes_denK [.star] k
    simp only [List.map_cons, List.map_nil, nodeOfV, matchNodes, Option.isSome_map] at this
    simp only [keyMatch2, show rewrite2 ['*'] = capAll by decide +kernel, reMatchBody_capAll, asBool, Out.map,
      matchNodes, Option.isSome_map, this]
  · obtain ⟨hne, hm⟩ := reMatchBody_tokVar varSyntax_colon emits_notSlashEsc hdoc
    simp only [keyMatch2, rewrite2, hne, if_false, hm, asBool, Out.map, matchNodes_denK]

/-- keyMatch3: as keyMatch2 with `{name}` (up to the first `}` of its segment) as the variable syntax -/
theorem keyMatch3_spec (k p : Str) (ts : List KTok) (hdoc : tok3 p = some ts) :
    keyMatch3 k p = .ok (denK ts k) := by
  simp only [keyMatch3, rewrite3, (reMatchBody_tokVar varSyntax_braceLazy emits_notSlashEsc hdoc).2, asBool, Out.map,
    matchNodes_denK]

/-- keyMatch5: as keyMatch3 (`{name}`, the name without braces) after the query string of the key
    (everything from the first `?`) has been dropped -/
theorem keyMatch5_spec (k p : Str) (ts : List KTok) (hdoc : tok5 p = some ts) :
    keyMatch5 k p = .ok (denK ts (dropQuery k)) := by
  simp only [keyMatch5, rewrite5, (reMatchBody_tokVar varSyntax_braceGreedy emits_notSlash hdoc).2, asBool, Out.map,
    matchNodes_denK]

/-- the query string is dropped at the first `?` -/
theorem dropQuery_spec (k : Str) :
    ('?' ∉ k → dropQuery k = k) ∧ (∀ pre post, k = pre ++ '?' :: post → '?' ∉ pre → dropQuery k = pre) := by
  rw [dropQuery_eq]
  exact ⟨takeWhile_ne_self, fun pre post hk hn => hk ▸ takeWhile_ne_append post hn⟩

example : docTok2 "/a/:id/*".toList = some [.lit '/', .lit 'a', .lit '/', .var, .lit '/', .star] := by eval_vector
example : tok3 "/a/p_{id}_s".toList =
    some [.lit '/', .lit 'a', .lit '/', .lit 'p', .lit '_', .var, .lit '_', .lit 's'] := by eval_vector
example : tok5 "/a/{id}/*".toList = some [.lit '/', .lit 'a', .lit '/', .var, .lit '/', .star] := by eval_vector
example : keyMatch2 "/a/7/x/y".toList "/a/:id/*".toList = .ok true := by eval_vector
/-- F21 (outside the documented form): on a bare `*` keyMatch3 raises `re.error` -/
example : keyMatch3 "a".toList "*".toList = .err .reError ∧ tok3 "*".toList = none := by decide +kernel

/-! ## keyMatch4's token loop and the keyGet group selection -/

/-- equal names are paired with equal texts -/
def Functional (l : List (Str × Str)) : Prop := ∀ t v v', (t, v) ∈ l → (t, v') ∈ l → v = v'

theorem Functional.congr {l l' : List (Str × Str)} (h : ∀ x, x ∈ l ↔ x ∈ l') : Functional l ↔ Functional l' := by
  simp only [Functional, h]

theorem Functional.cons_new {t v : Str} {l : List (Str × Str)} (h : Functional l) (hn : ∀ v', (t, v') ∉ l) :
    Functional ((t, v) :: l) := by
  simp only [Functional, List.mem_cons, Prod.mk.injEq]
  rintro t' a b (⟨rfl, rfl⟩ | ha) (⟨_, rfl⟩ | hb)
  · rfl
  · exact absurd hb (hn _)
  · exact absurd (‹t' = t› ▸ ha) (hn _)
  · exact h _ _ _ ha hb

/-- invariant of the loop: `seen` is functional, and the answer says whether it stays so with the pairs to come -/
theorem bindCheck_iff (seen pairs : List (Str × Str)) (hs : Functional seen) :
    bindCheck seen pairs = true ↔ Functional (seen ++ pairs) := by
  fun_induction bindCheck seen pairs with
  | case1 seen => simpa using hs
  | case2 seen t v r hl ih =>
    have hn : ∀ v', (t, v') ∉ seen := fun v' hm => by simpa using List.lookup_eq_none_iff.1 hl _ hm
    rw [ih (hs.cons_new hn)]
    exact Functional.congr fun x => by simp only [List.cons_append, List.mem_cons, List.mem_append, or_left_comm]
  | case3 seen t r v0 hl ih =>
    have hm := mem_of_lookup_eq_some hl
    rw [ih hs]
    -- the pair is in `seen` already, so with or without it the members are the same
    refine Functional.congr fun x => ?_
    simp only [List.mem_append, List.mem_cons]
    constructor
    · rintro (h | h)
      · exact .inl h
      · exact .inr (.inr h)
    · rintro (h | rfl | h)
      · exact .inl h
      · exact .inl hm
      · exact .inr h
  | case4 seen t v r v0 hl hv =>
    simp only [Bool.false_eq_true, false_iff]
    exact fun h => hv (h t v0 v (by simp [mem_of_lookup_eq_some hl]) (by simp))

/-- keyMatch4's loop over the captures: after a successful regex match the function answers `True` exactly when
    equal names captured equal texts -/
theorem bindCheck_spec (pairs : List (Str × Str)) :
    bindCheck [] pairs = true ↔ ∀ t v v', (t, v) ∈ pairs → (t, v') ∈ pairs → v = v' :=
  bindCheck_iff [] pairs (fun _ _ _ h => nomatch h)

example : bindCheck [] [("id".toList, "1".toList), ("x".toList, "2".toList), ("id".toList, "1".toList)] = true := by
  eval_vector
example : bindCheck [] [("id".toList, "1".toList), ("id".toList, "2".toList)] = false := by eval_vector

/-- keyGet2 / keyGet3, group selection: the answer is the capture at the position of the first variable
    named `v` (empty when there is none) -/
theorem pickGroup_spec (v : Str) (names caps : List Str) (h : names.length = caps.length) :
    pickGroup v names caps = ((names.zip caps).lookup v).getD [] := by
  induction names generalizing caps with
  | nil => cases caps <;> simp [pickGroup]
  | cons n ns ih =>
    cases caps with
    | nil => simp at h
    | cons g gs =>
      simp only [List.length_cons, Nat.add_right_cancel_iff] at h
      simp only [pickGroup, List.zip_cons_cons, List.lookup]
      by_cases hv : v = n
      · subst hv; simp
      · have : (v == n) = false := by simp [hv]
        simp [hv, this, ih gs h]

/-! ## Captures: for patterns whose variables end at a '/' (or at the end) the match is unique -/

theorem repG_seg {α : Type} (k : Str → Option α)
    (hk : ∀ c x, c ≠ '/' → k (c :: x) = none) (cs : Bool) (s : Str) :
    repG Atom.notSlash.ok k cs s =
      (if (takeSeg s).isEmpty && !cs then none
       else (k (s.drop (takeSeg s).length)).map (fun r => (takeSeg s, r))) := by
  induction s generalizing cs with
  | nil => cases cs <;> simp [repG, takeSeg]
  | cons c s ih =>
    by_cases hc : c = '/'
    · subst hc
      cases cs <;> simp [repG, takeSeg, Atom.ok]
    · have hok : Atom.notSlash.ok c = true := by simp [Atom.ok, hc]
      simp only [repG, hok, if_true, ih true, takeSeg, hc, if_false, List.isEmpty_cons, Bool.false_and,
        Bool.and_false, Bool.not_true, List.length_cons, List.drop_succ_cons, Option.map_map,
        Bool.false_eq_true]
      cases hkd : k (s.drop (takeSeg s).length) with
      | some r => simp
      | none =>
        simp only [Option.map_none]
        cases cs
        · rfl
        · simp [hk c s hc]

/-- when the continuation fails wherever the run could go on, the lazy repetition cannot stop early and the greedy
    one gains nothing by backtracking: both take the whole run -/
theorem repL_eq_repG {α : Type} (ok : Char → Bool) (k : Str → Option α)
    (hk : ∀ c x, ok c = true → k (c :: x) = none) (cs : Bool) (s : Str) :
    repL ok k cs s = repG ok k cs s := by
  induction s generalizing cs with
  | nil => rfl
  | cons c s ih =>
    simp only [repL, repG, ih]
    cases hc : ok c
    · cases cs <;> simp
      cases k (c :: s) <;> rfl
    · simp only [hk c s hc, Option.map_none, ite_self, if_true]
      cases repG ok k true s <;> rfl

theorem repG_all {α : Type} (ok : Char → Bool) (k : Str → Option α) (s : Str) (r : α)
    (hok : ∀ c ∈ s, ok c = true) (hk : k [] = some r) : repG ok k true s = some (s, r) := by
  induction s with
  | nil => simp [repG, hk]
  | cons c s ih =>
    have h1 : ok c = true := hok c (by simp)
    have h2 := ih (fun d hd => hok d (by simp [hd]))
    simp [repG, h1, h2]

/-- a capturing `[^/]+` or `[^/]+?` binds the whole segment when what follows it fails inside a segment -/
theorem matchNodes_seg (q : Quant) (hq : q = .plus ∨ q = .plusLazy) (r : List Node)
    (hk : ∀ c x, c ≠ '/' → matchNodes r (c :: x) = none) (s : Str) :
    matchNodes (⟨.notSlash, q, true⟩ :: r) s =
      if (takeSeg s).isEmpty then none
      else (matchNodes r (s.drop (takeSeg s).length)).map (takeSeg s :: ·) := by
  have hq' : matchNodes (⟨.notSlash, q, true⟩ :: r) s =
      (repG Atom.notSlash.ok (matchNodes r) false s).map (fun wc => wc.1 :: wc.2) := by
    rcases hq with rfl | rfl
    · rfl
    · rw [matchNodes_plusLazy, repL_eq_repG _ _ fun c x hc => hk c x (by simpa [Atom.ok] using hc)]; rfl
  rw [hq', repG_seg _ hk]
  cases (takeSeg s).isEmpty <;> simp [Option.map_map, Function.comp_def]

/-- with a capturing variable node (`([^/]+)` or `([^/]+?)`) the first successful match of a pattern in
    `detForm` binds exactly the segments `capsOf` computes — for EVERY key -/
theorem matchNodes_caps (q : Quant) (hq : q = .plus ∨ q = .plusLazy) (ts : List KTok) (s : Str)
    (hd : detForm ts = true) :
    matchNodes (ts.map (nodeOfV { atom := .notSlash, q := q, cap := true })) s = capsOf ts s := by
  induction ts generalizing s with
  | nil => rfl
  | cons t ts ih =>
    cases t with
    | lit c =>
      have hd' : detForm ts = true := by simpa [detForm] using hd
      cases s with
      | nil => rfl
      | cons x s' =>
        simp only [List.map_cons, nodeOfV, matchNodes_one, capsOf, Atom.ok, ih s' hd']
        by_cases hx : x = c <;> simp [hx, Option.map_map, Function.comp_def]
    | star =>
      obtain rfl : ts = [] := by simpa [detForm] using hd
      simp only [List.map_cons, List.map_nil, nodeOfV, matchNodes_star, capsOf,
        repG_all Atom.dot.ok (matchNodes []) s [] (fun _ _ => rfl) rfl]
      rfl
    | var =>
      simp only [detForm, Bool.and_eq_true] at hd
      rw [List.map_cons, nodeOfV, capsOf, ← ih _ hd.2]
      -- in `detForm` what follows a variable starts with '/' (or is the end), so it fails inside a segment
      refine matchNodes_seg q hq _ (fun c x hc => ?_) s
      match ts, hd.1 with
      | [], _ => rfl
      | .lit c' :: _, h =>
        obtain rfl : c' = '/' := by simpa using h
        simp [nodeOfV, matchNodes_one, Atom.ok, hc]

/-! ### the names the code extracts, and the binding theorems -/

theorem namesVar_copy {varLen : Str → Option Nat} (nameOf : Str → Str) {c : Char} {s : Str}
    (h : ∀ n, varLen (c :: s) ≠ some (n + 1)) :
    namesVar varLen nameOf 0 (c :: s) = namesVar varLen nameOf 0 s := by
  rw [namesVar]
  split
  · rename_i n hn; exact absurd hn (h n)
  · rfl

theorem namesVar_var {varLen : Str → Option Nat} (nameOf : Str → Str) {c : Char} {s : Str} {n : Nat}
    (h : varLen (c :: s) = some (n + 1)) :
    namesVar varLen nameOf 0 (c :: s) = nameOf ((c :: s).take (n + 1)) :: namesVar varLen nameOf n s := by
  rw [namesVar, h]

def varCount : List KTok → Nat
  | [] => 0
  | .var :: ts => varCount ts + 1
  | _ :: ts => varCount ts

theorem names_doc {varLen : Str → Option Nat} (nameOf : Str → Str) {n : Nat} {p q : Str} {ts : List KTok}
    (h : Doc varLen n p q ts) :
    namesVar varLen nameOf n q = namesVar varLen nameOf n p ∧
    (namesVar varLen nameOf n p).length = varCount ts := by
  induction h with
  | nil => exact ⟨rfl, rfl⟩
  | skip _ ih => exact ih
  | var hp hq ht _ ih =>
    rw [namesVar_var _ hq, namesVar_var _ hp, ht, ih.1]
    exact ⟨rfl, congrArg (· + 1) ih.2⟩
  | lit _ hp hq _ ih => rw [namesVar_copy _ hq, namesVar_copy _ hp]; exact ih
  | star hp h1 h2 _ ih => rw [namesVar_copy _ h1, namesVar_copy _ h2, namesVar_copy _ hp]; exact ih

/-- `re.findall` on the text after `replace("/*", "/.*")` finds the same names as on the pattern itself,
    one per variable -/
theorem names_repl (varLen : Str → Option Nat) (okVar : Str → Bool) (nameOf : Str → Str) (V : VarSyntax varLen)
    (n : Nat) (p : Str) :
    ∀ ts, tokVar varLen okVar n p = some ts → noSlash (p.take n) = true →
      namesVar varLen nameOf n (replSlashStar p) = namesVar varLen nameOf n p ∧
      (namesVar varLen nameOf n p).length = varCount ts :=
  fun _ h hn => names_doc nameOf (tokVar_doc V h hn)

theorem capsOf_length (ts : List KTok) (s : Str) (caps : List Str) (hd : detForm ts = true)
    (h : capsOf ts s = some caps) : caps.length = varCount ts := by
  fun_induction capsOf ts s generalizing caps with
  | case1 => cases h; rfl
  | case4 ts c s ih => exact ih caps hd h
  | case6 ts s => cases h; simp_all [detForm, varCount]
  | case8 ts s hne ih =>
    obtain ⟨c', hc', rfl⟩ := Option.map_eq_some_iff.1 h
    exact congrArg (· + 1) (ih c' (by simp_all [detForm]) hc')
  | case2 | case3 | case5 | case7 => cases h

theorem pickOverrun_len (v : Str) (names caps : List Str) (h : names.length = caps.length) :
    pickOverrun v names caps = false := by
  fun_induction pickOverrun v names caps <;> simp_all

/-- the last step of `key_get2` / `key_get3` when there is one capture per name: no `IndexError`, and the answer
    is the capture of the first variable named `v` -/
theorem pick_eq (v : Str) (names caps : List Str) (h : names.length = caps.length) :
    (if pickOverrun v names caps then Out.outside else .ok (pickGroup v names caps)) =
      .ok (((names.zip caps).lookup v).getD []) := by
  simp only [pickOverrun_len v names caps h, pickGroup_spec v names caps h, Bool.false_eq_true, if_false]

/-- keyMatch4 (binding): for a pattern of the documented form whose variables end at a '/' or at the end and
    whose `*` is last, and EVERY key: the answer is `True` exactly when the key is denoted (`capsOf`
    finds the segment bound by every variable) and, by `bindCheck_spec`, equal names bound equal texts.
    Never raises. -/
theorem keyMatch4_binding (k p : Str) (ts : List KTok) (hdoc : tok5 p = some ts) (hd : detForm ts = true) :
    keyMatch4 k p = .ok (match capsOf ts k with
      | none => false
      | some caps => bindCheck [] ((namesVar varLenBraceGreedy nameBrace 0 p).zip caps)) := by
  obtain ⟨_, hm⟩ := reMatchBody_tokVar varSyntax_braceGreedy emits_capNotSlash hdoc
  obtain ⟨hn, hl⟩ := names_repl varLenBraceGreedy okBraceName nameBrace varSyntax_braceGreedy 0 p ts hdoc rfl
  simp only [keyMatch4, hm, matchNodes_caps .plus (.inl rfl) ts k hd, hn, Out.bind]
  cases hc : capsOf ts k with
  | none => rfl
  | some caps => simp [hl, capsOf_length ts k caps hd hc]

/-- keyGet2 (binding): the text bound by the first variable named `v`; empty when the key is not denoted or
    no variable has that name -/
theorem keyGet2_binding (k p v : Str) (ts : List KTok) (hdoc : tokVar varLenColon okAny 0 p = some ts)
    (hd : detForm ts = true) :
    keyGet2 k p v = .ok (match capsOf ts k with
      | none => []
      | some caps => (((namesVar varLenColon nameColon 0 p).zip caps).lookup v).getD []) := by
  obtain ⟨hne, hm⟩ := reMatchBody_tokVar varSyntax_colon emits_capNotSlashEsc hdoc
  obtain ⟨hn, hl⟩ := names_repl varLenColon okAny nameColon varSyntax_colon 0 p ts hdoc rfl
  simp only [keyGet2, rewriteGet2, hne, if_false, hm, matchNodes_caps .plus (.inl rfl) ts k hd, hn, Out.bind]
  cases hc : capsOf ts k with
  | none => rfl
  | some caps => exact pick_eq v _ caps (hl.trans (capsOf_length ts k caps hd hc).symm)

/-- keyGet3 (binding): as keyGet2 with `{name}`; the lazy capture `([^/]+?)` binds the same segment -/
theorem keyGet3_binding (k p v : Str) (ts : List KTok) (hdoc : tok3 p = some ts)
    (hd : detForm ts = true) :
    keyGet3 k p v = .ok (match capsOf ts k with
      | none => []
      | some caps => (((namesVar varLenBraceLazy nameBrace 0 p).zip caps).lookup v).getD []) := by
  obtain ⟨hne, hm⟩ := reMatchBody_tokVar varSyntax_braceLazy emits_capNotSlashLazy hdoc
  obtain ⟨hn, hl⟩ := names_repl varLenBraceLazy okAny nameBrace varSyntax_braceLazy 0 p ts hdoc rfl
  simp only [keyGet3, rewriteGet3, hne, if_false, hm, matchNodes_caps .plusLazy (.inr rfl) ts k hd, hn, Out.bind]
  cases hc : capsOf ts k with
  | none => rfl
  | some caps => exact pick_eq v _ caps (hl.trans (capsOf_length ts k caps hd hc).symm)

example : (tok5 "/p/{id}/c/{id}".toList).map detForm = some true := by eval_vector
example : keyMatch4 "/p/1/c/1".toList "/p/{id}/c/{id}".toList = .ok true := by eval_vector
example : keyMatch4 "/p/1/c/2".toList "/p/{id}/c/{id}".toList = .ok false := by eval_vector
example : keyGet2 "/r/7".toList "/r/:id".toList "id".toList = .ok ['7'] := by eval_vector
/-- F21 (outside `detForm`: `*` directly followed by a variable): only the first backtracking match is examined -/
example : keyMatch4 "aa/aa".toList "{x}/*{x}".toList = .ok false ∧
    (tok5 "{x}/*{x}".toList).map detForm = some false := by eval_vector

/-! ### the driver's `spec=` column for the binding functions is the right-hand side of these theorems -/

theorem bindForm_eq_some (toks : Option (List KTok)) (ts : List KTok) :
    bindForm toks = some ts ↔ toks = some ts ∧ detForm ts = true := by
  simp only [bindForm, Option.bind_eq_some_iff, Option.ite_none_right_eq_some, Option.some.injEq]
  constructor
  · rintro ⟨a, rfl, hd, rfl⟩; exact ⟨rfl, hd⟩
  · rintro ⟨rfl, hd⟩; exact ⟨ts, rfl, hd, rfl⟩

theorem keyMatch4_eq_spec (k p : Str) (b : Bool) (h : keyMatch4Spec k p = some b) :
    keyMatch4 k p = .ok b := by
  simp only [keyMatch4Spec, Option.map_eq_some_iff, bindForm_eq_some] at h
  obtain ⟨ts, ⟨h1, h2⟩, rfl⟩ := h
  exact keyMatch4_binding k p ts h1 h2

theorem keyGet2_eq_spec (k p v r : Str) (h : keyGet2Spec k p v = some r) (hp : p ≠ ['*']) :
    keyGet2 k p v = .ok r := by
  simp only [keyGet2Spec, hp, if_false, Option.map_eq_some_iff, bindForm_eq_some] at h
  obtain ⟨ts, ⟨h1, h2⟩, rfl⟩ := h
  exact keyGet2_binding k p v ts h1 h2

/-- the whole pattern `*` binds nothing: keyGet2 answers the empty text -/
theorem keyGet2_star (k v : Str) : keyGet2 k ['*'] v = .ok [] := by
  simp only [keyGet2, show rewriteGet2 ['*'] = capAll by decide +kernel, reMatchBody_capAll, Out.bind,
    show namesVar varLenColon nameColon 0 (replSlashStar ['*']) = [] by decide +kernel]
  cases matchNodes [{ atom := Atom.dot, q := Quant.star, cap := true }] k with
  | none => rfl
  | some caps => cases caps <;> simp [pickOverrun, pickGroup]

theorem keyGet3_eq_spec (k p v r : Str) (h : keyGet3Spec k p v = some r) :
    keyGet3 k p v = .ok r := by
  simp only [keyGet3Spec, Option.map_eq_some_iff, bindForm_eq_some] at h
  obtain ⟨ts, ⟨h1, h2⟩, rfl⟩ := h
  exact keyGet3_binding k p v ts h1 h2

/-! ### declarative reading of the bindings -/

/-- `DenotesK` with the texts bound by the variables, left to right -/
inductive DenotesKB : List KTok → Str → List Str → Prop
  | nil : DenotesKB [] [] []
  | lit {c : Char} {ts : List KTok} {s : Str} {caps : List Str} :
      DenotesKB ts s caps → DenotesKB (.lit c :: ts) (c :: s) caps
  | star {ts : List KTok} {s : Str} {caps : List Str} (w : Str) :
      DenotesKB ts s caps → DenotesKB (.star :: ts) (w ++ s) caps
  | var {ts : List KTok} {s : Str} {caps : List Str} (w : Str) :
      w ≠ [] → '/' ∉ w → DenotesKB ts s caps → DenotesKB (.var :: ts) (w ++ s) (w :: caps)

theorem takeSeg_append_drop (s : Str) : takeSeg s ++ s.drop (takeSeg s).length = s := by
  rw [takeSeg_eq]; exact List.prefix_iff_eq_append.1 (List.takeWhile_prefix _)

theorem takeSeg_append (w s' : Str) (hw : '/' ∉ w) (hs : s' = [] ∨ ∃ r, s' = '/' :: r) : takeSeg (w ++ s') = w := by
  rw [takeSeg_eq]
  rcases hs with rfl | ⟨r, rfl⟩
  · rw [List.append_nil, takeWhile_ne_self hw]
  · exact takeWhile_ne_append r hw

/-- what follows a variable in `detForm` starts with '/' (or is empty) in every denoted key -/
theorem detForm_next (ts : List KTok) (s : Str) (caps : List Str)
    (hn : (match ts with | [] => true | .lit c :: _ => c == '/' | _ => false) = true)
    (h : DenotesKB ts s caps) : s = [] ∨ ∃ r, s = '/' :: r := by
  cases h with
  | nil => exact Or.inl rfl
  | lit h => simp at hn; subst hn; exact Or.inr ⟨_, rfl⟩
  | star w h => simp at hn
  | var w _ _ h => simp at hn

/-- for patterns in `detForm` the bindings are unique, and `capsOf` computes them -/
theorem capsOf_iff (ts : List KTok) (s : Str) (caps : List Str) (hd : detForm ts = true) :
    capsOf ts s = some caps ↔ DenotesKB ts s caps := by
  constructor
  · intro h
    induction ts generalizing s caps with
    | nil =>
      simp only [capsOf, Option.ite_none_right_eq_some, List.isEmpty_iff, Option.some.injEq] at h
      obtain ⟨rfl, rfl⟩ := h; exact .nil
    | cons t ts ih =>
      cases t with
      | lit c =>
        cases s with
        | nil => simp [capsOf] at h
        | cons x s =>
          simp only [capsOf, Option.ite_none_right_eq_some] at h
          exact h.1 ▸ .lit (ih _ _ (by simpa [detForm] using hd) h.2)
      | star =>
        obtain rfl : ts = [] := by simpa [detForm] using hd
        obtain rfl : [] = caps := by simpa [capsOf] using h
        simpa using DenotesKB.star s .nil
      | var =>
        simp only [capsOf, Option.ite_none_left_eq_some, Option.map_eq_some_iff] at h
        obtain ⟨hne, c', hc', rfl⟩ := h
        simp only [detForm, Bool.and_eq_true] at hd
        have := DenotesKB.var (takeSeg s) (by simpa using hne) (takeSeg_noSlash s) (ih _ _ hd.2 hc')
        rwa [takeSeg_append_drop] at this
  · intro h
    induction h with
    | nil => rfl
    | lit _ ih => simpa [capsOf] using ih (by simpa [detForm] using hd)
    | star w h =>
      obtain rfl : _ = [] := by simpa [detForm] using hd
      cases h; rfl
    | @var ts s caps w hw hsl h ih =>
      simp only [detForm, Bool.and_eq_true] at hd
      have hne : w.isEmpty = false := by simpa using hw
      -- the variable's text is the whole first segment: what follows starts with '/' or is the end
      rw [capsOf, takeSeg_append w s hsl (detForm_next ts s caps hd.1 h)]
      simp [hne, ih hd.2]

theorem capsOf_eq_none (ts : List KTok) (s : Str) (hd : detForm ts = true)
    (h : ¬ ∃ caps, DenotesKB ts s caps) : capsOf ts s = none :=
  Option.eq_none_iff_forall_ne_some.2 fun caps hc => h ⟨caps, (capsOf_iff ts s caps hd).1 hc⟩

/-- keyMatch4, declaratively: `True` exactly when the key decomposes along the pattern (literals, one non-empty
    run without '/' per variable, any remainder for a final `*`) and equal names bound equal texts -/
theorem keyMatch4_declarative (k p : Str) (ts : List KTok) (hdoc : tok5 p = some ts) (hd : detForm ts = true) :
    keyMatch4 k p = .ok true ↔
      ∃ caps, DenotesKB ts k caps ∧
        ∀ t v v', (t, v) ∈ (namesVar varLenBraceGreedy nameBrace 0 p).zip caps →
          (t, v') ∈ (namesVar varLenBraceGreedy nameBrace 0 p).zip caps → v = v' := by
  rw [keyMatch4_binding k p ts hdoc hd]
  constructor
  · intro h
    cases hc : capsOf ts k with
    | none => simp [hc] at h
    | some caps => exact ⟨caps, (capsOf_iff ts k caps hd).1 hc, (bindCheck_spec _).1 (by simpa [hc] using h)⟩
  · rintro ⟨caps, h1, h2⟩
    rw [(capsOf_iff ts k caps hd).2 h1]
    exact congrArg Out.ok ((bindCheck_spec _).2 h2)

/-- on these inputs keyMatch4 answers `True` or `False`: it neither raises nor leaves the model -/
theorem keyMatch4_total (k p : Str) (ts : List KTok) (hdoc : tok5 p = some ts) (hd : detForm ts = true)
    : keyMatch4 k p = .ok true ∨ keyMatch4 k p = .ok false := by
  rw [keyMatch4_binding k p ts hdoc hd]
  cases capsOf ts k with
  | none => exact Or.inr rfl
  | some caps => cases bindCheck [] ((namesVar varLenBraceGreedy nameBrace 0 p).zip caps) <;> simp

/-- keyGet2, declaratively: when the key decomposes along the pattern with bindings `caps`, the answer is the
    text bound by the first variable named `v` (empty if there is none); when it does not decompose, the empty text -/
theorem keyGet2_declarative (k p v : Str) (ts : List KTok) (hdoc : tokVar varLenColon okAny 0 p = some ts)
    (hd : detForm ts = true) :
    (∀ caps, DenotesKB ts k caps →
      keyGet2 k p v = .ok ((((namesVar varLenColon nameColon 0 p).zip caps).lookup v).getD [])) ∧
    ((¬ ∃ caps, DenotesKB ts k caps) → keyGet2 k p v = .ok []) := by
  rw [keyGet2_binding k p v ts hdoc hd]
  exact ⟨fun caps h => by rw [(capsOf_iff ts k caps hd).2 h], fun h => by rw [capsOf_eq_none ts k hd h]⟩

/-- keyGet3, declaratively (as keyGet2, `{name}` variables) -/
theorem keyGet3_declarative (k p v : Str) (ts : List KTok) (hdoc : tok3 p = some ts)
    (hd : detForm ts = true) :
    (∀ caps, DenotesKB ts k caps →
      keyGet3 k p v = .ok ((((namesVar varLenBraceLazy nameBrace 0 p).zip caps).lookup v).getD [])) ∧
    ((¬ ∃ caps, DenotesKB ts k caps) → keyGet3 k p v = .ok []) := by
  rw [keyGet3_binding k p v ts hdoc hd]
  exact ⟨fun caps h => by rw [(capsOf_iff ts k caps hd).2 h], fun h => by rw [capsOf_eq_none ts k hd h]⟩

/-- the names are the texts between the delimiters (the example of `key_match4`'s docstring) -/
example : namesVar varLenBraceGreedy nameBrace 0 "/parent/{id}/child/{id}".toList = ["id".toList, "id".toList] := by
  eval_vector
example : namesVar varLenColon nameColon 0 "/r/:res/:id".toList = ["res".toList, "id".toList] := by eval_vector

/-! ### soundness as a corollary: never raises, never `True` for a key the pattern does not denote (every key, line
    feeds included) -/

theorem keyMatch2_sound (k p : Str) (ts : List KTok) (hdoc : docTok2 p = some ts) :
    ∃ b, keyMatch2 k p = .ok b ∧ (b = true → denK ts k = true) :=
  ⟨denK ts k, keyMatch2_spec k p ts hdoc, id⟩

theorem keyMatch3_sound (k p : Str) (ts : List KTok) (hdoc : tok3 p = some ts) :
    ∃ b, keyMatch3 k p = .ok b ∧ (b = true → denK ts k = true) :=
  ⟨denK ts k, keyMatch3_spec k p ts hdoc, id⟩

theorem keyMatch5_sound (k p : Str) (ts : List KTok) (hdoc : tok5 p = some ts) :
    ∃ b, keyMatch5 k p = .ok b ∧ (b = true → denK ts (dropQuery k) = true) :=
  ⟨denK ts (dropQuery k), keyMatch5_spec k p ts hdoc, id⟩

/-- a trailing line feed is not accepted (F21-NLa: `\Z`, where `$` would accept it) -/
example : keyMatch2 "/a\n".toList "/a".toList = .ok false := by eval_vector
/-- `*` is any remainder, line feeds included (F21-NLb: `(?s)`, without which `.` stops at a line feed) -/
example : keyMatch2 "/a/b\nc".toList "/a/*".toList = .ok true ∧
    (docTok2 "/a/*".toList).map (fun ts => denK ts "/a/b\nc".toList) = some true := by eval_vector
/-- a variable is one non-empty run without '/', which may contain a line feed (`[^/]` matches it) -/
example : keyGet2 "/a/1\n2/x".toList "/a/:id/x".toList "id".toList = .ok "1\n2".toList := by eval_vector

end Casbin.C13
