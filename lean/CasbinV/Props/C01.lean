import CasbinV.Model.Effect
import CasbinV.Gen.Effectors
/-!
# C01 — the decision is the declared effect combination of exactly the matching rules

Subject: `Casbin.enforceEx` / `Casbin.enforce` (Model/Effect.lean, tied to `CoreEnforcer.enforce_ex` by the
correspondence run) and the definitions regenerated from `casbin/effect/*.py` by translator T1
(`Gen/Effectors.lean`, tied by `gen_*` below).
-/
namespace Casbin.C01

/-! ## Tie to the regenerated effectors (T1) -/

theorem gen_intermediate_eq :
    Gen.intermediate_AllowOverrideEffector = intermediate .allowOverride ∧
    Gen.intermediate_DenyOverrideEffector = intermediate .denyOverride ∧
    Gen.intermediate_AllowAndDenyEffector = intermediate .allowAndDeny ∧
    Gen.intermediate_PriorityEffector = intermediate .priority := by
  refine ⟨?_, ?_, ?_, ?_⟩ <;> funext ⟨a, i, d⟩ <;> cases a <;> cases i <;> cases d <;> rfl

theorem gen_final_eq :
    Gen.final_AllowOverrideEffector = final .allowOverride ∧
    Gen.final_DenyOverrideEffector = final .denyOverride ∧
    Gen.final_AllowAndDenyEffector = final .allowAndDeny ∧
    Gen.final_PriorityEffector = final .priority := by
  refine ⟨?_, ?_, ?_, ?_⟩ <;> funext ⟨a, i, d⟩ <;> cases a <;> cases i <;> cases d <;> rfl

def clsKind : String → Option EffectKind
  | "AllowOverrideEffector" => some .allowOverride
  | "DenyOverrideEffector" => some .denyOverride
  | "AllowAndDenyEffector" => some .allowAndDeny
  | "PriorityEffector" => some .priority
  | _ => none

/-- the regenerated `get_effector` table is the model's `effectTable`, entry by entry (the five documented effect
    expressions in the same order, class names read by `clsKind`); `lookupEffector` goes by the first matching key, so
    it selects the same effector from either table and raises on the same strings -/
theorem effect_table :
    Gen.effectTable.map (fun p => (p.1, clsKind p.2)) = effectTable.map (fun p => (p.1, some p.2)) := by
  decide +kernel

theorem gen_effectToBool (e : Eft) :
    (match Gen.effectToBoolTable.find? (·.1 == e) with
     | some (_, b) => Except.ok b
     | none => Except.error Err.effectToBool) = effectToBool e := by
  cases e <;> rfl

/-- the three effect constants are pairwise distinct (otherwise set membership would conflate them) -/
theorem gen_effConsts_distinct :
    Gen.effConsts.map (·.1) = [.allow, .indet, .deny] ∧ (Gen.effConsts.map (·.2)).Nodup := by
  decide

/-! ## The rule loop against the effect expressions -/

def allOutcomes {ρ : Type} (cfg : Cfg) (m : List ρ → List String → MVal) (req : List ρ) :
    List (List String) → Except Err (List Outcome)
  | [] => .ok []
  | p :: ps =>
    match ruleOutcome cfg m req p with
    | .error e => .error e
    | .ok o => match allOutcomes cfg m req ps with
      | .error e => .error e
      | .ok os => .ok (o :: os)

/-- the loop over already classified outcomes -/
def loopO (k : EffectKind) : List Outcome → EffSet → Nat → EffSet × Option Nat
  | [], s, _ => (s, none)
  | o :: os, s, idx =>
    match o with
    | .noMatch => loopO k os (s.add .indet) (idx + 1)
    | o =>
      let s' := s.add o.eft
      if intermediate k s' != .indet then (s', some idx) else loopO k os s' (idx + 1)

theorem ruleOutcome_bool {ρ : Type} (cfg : Cfg) (m : List ρ → List String → MVal) (req : List ρ)
    (p : List String) (b : Bool) (hl : p.length = cfg.pArity) (hb : m req p = .bool b) :
    ruleOutcome cfg m req p = .ok (if b then ruleEft cfg p else .noMatch) := by
  unfold ruleOutcome
  rw [hb]
  cases b <;> simp [hl]

theorem allOutcomes_cons {ρ : Type} {cfg : Cfg} {m : List ρ → List String → MVal} {req : List ρ}
    {p : List String} {ps : List (List String)} {os : List Outcome} :
    allOutcomes cfg m req (p :: ps) = .ok os ↔
      ∃ o os', ruleOutcome cfg m req p = .ok o ∧ allOutcomes cfg m req ps = .ok os' ∧ os = o :: os' := by
  simp only [allOutcomes]
  cases ruleOutcome cfg m req p <;> cases allOutcomes cfg m req ps <;> simp [eq_comm]

theorem allOutcomes_eq_map {ρ : Type} {cfg : Cfg} {m : List ρ → List String → MVal} {req : List ρ}
    {l : List (List String)} {f : List String → Outcome} (h : ∀ p ∈ l, ruleOutcome cfg m req p = .ok (f p)) :
    allOutcomes cfg m req l = .ok (l.map f) := by
  induction l with
  | nil => rfl
  | cons p ps ih => simp only [allOutcomes, h p (by simp), ih fun q hq => h q (by simp [hq]), List.map_cons]

theorem loop_eq_loopO {ρ : Type} (cfg : Cfg) (m : List ρ → List String → MVal) (req : List ρ)
    (policy : List (List String)) (os : List Outcome) (s : EffSet) (idx : Nat)
    (h : allOutcomes cfg m req policy = .ok os) :
    loop cfg m req policy s idx = .ok (loopO cfg.kind os s idx) := by
  induction policy generalizing os s idx with
  | nil => cases h; rfl
  | cons p ps ih =>
    obtain ⟨o, os', ho, hos, rfl⟩ := allOutcomes_cons.mp h
    unfold loop loopO
    rw [ho]
    cases o <;> simp only [] <;> (try split) <;> (try rfl) <;> exact ih os' _ _ hos

/-! The effectors read two bits of the collected set: was an allow seen, was a deny seen. -/

theorem add_eft (s : EffSet) (o : Outcome) :
    (s.add o.eft).a = (s.a || o.isAllow) ∧ (s.add o.eft).d = (s.d || o.isDeny) := by
  cases o <;> simp [EffSet.add, Outcome.eft, Outcome.isAllow, Outcome.isDeny]

theorem undecided_iff (k : EffectKind) (s : EffSet) :
    intermediate k s = .indet ↔
      match k with
      | .allowOverride => s.a = false
      | .denyOverride | .allowAndDeny => s.d = false
      | .priority => s.a = false ∧ s.d = false := by
  cases k <;> simp only [intermediate] <;> cases s.a <;> cases s.d <;> simp

theorem final_allow (k : EffectKind) (s : EffSet) :
    (final k s == .allow) =
      match k with
      | .allowOverride | .priority => s.a
      | .denyOverride => !s.d
      | .allowAndDeny => s.a && !s.d := by
  cases k <;> simp only [final] <;> cases s.a <;> cases s.d <;> rfl

/-- while the loop runs the collected set is still undecided, and a rule stops the loop exactly when it
    is decisive for the effector -/
theorem intermediate_add (k : EffectKind) (s : EffSet) (o : Outcome) (hinv : intermediate k s = .indet) :
    (intermediate k (s.add o.eft) != .indet) = decisiveFor k o := by
  rw [undecided_iff] at hinv
  cases k <;> simp only [intermediate, decisiveFor, decisive, add_eft, hinv] <;>
    cases o.isAllow <;> cases o.isDeny <;> rfl

/-- one uniform unfolding of the loop, valid while the collected set is undecided -/
theorem loopO_cons (k : EffectKind) (o : Outcome) (os : List Outcome) (s : EffSet) (idx : Nat)
    (hinv : intermediate k s = .indet) :
    loopO k (o :: os) s idx =
      if decisiveFor k o then (s.add o.eft, some idx) else loopO k os (s.add o.eft) (idx + 1) := by
  have hstep := intermediate_add k s o hinv
  cases o with
  | noMatch =>
    have hd : decisiveFor k .noMatch = false := by cases k <;> rfl
    simp [loopO, hd, Outcome.eft]
  | mAllow | mDeny | mOther => simp only [loopO, hstep]

theorem spec_priority_cons (o : Outcome) (os : List Outcome) :
    spec .priority (o :: os) = if decisive o then o.isAllow else spec .priority os := by
  cases o <;> rfl

/-- the decision of the loop started on an undecided set `s`: the effect expression, with what `s` already holds -/
theorem loopO_spec (k : EffectKind) (os : List Outcome) (s : EffSet) (idx : Nat)
    (hinv : intermediate k s = .indet) :
    (final k (loopO k os s idx).1 == .allow) =
      -- `generalizing := false`: otherwise `hinv`, which mentions `k`, becomes a second discriminant of the match
      match (generalizing := false) k with
      | .allowOverride => s.a || os.any (·.isAllow)
      | .denyOverride => !s.d && !os.any (·.isDeny)
      | .allowAndDeny => (s.a || os.any (·.isAllow)) && !s.d && !os.any (·.isDeny)
      | .priority => spec .priority os := by
  induction os generalizing s idx with
  | nil =>
    rw [undecided_iff] at hinv
    cases k <;> simp_all [loopO, final_allow, spec]
  | cons o os ih =>
    rw [loopO_cons k o os s idx hinv]
    cases hd : decisiveFor k o
    · -- the loop goes on with one more effect in a set that is still undecided
      rw [if_neg (by simp), ih _ _ (by simpa [hd] using intermediate_add k s o hinv), (add_eft s o).1, (add_eft s o).2]
      cases k <;> simp_all [decisiveFor, spec_priority_cons, Bool.or_assoc, Bool.and_assoc]
    · -- the loop stops: `o` decides
      rw [if_pos rfl, final_allow, (add_eft s o).1, (add_eft s o).2]
      rw [undecided_iff] at hinv
      cases k <;> simp_all [decisiveFor, spec_priority_cons]

theorem final_never_indet (k : EffectKind) (s : EffSet) : final k s ≠ .indet := by
  cases k <;> simp [final] <;> split <;> simp <;> split <;> simp

theorem effectToBool_final (k : EffectKind) (s : EffSet) :
    effectToBool (final k s) = .ok (final k s == .allow) := by
  have := final_never_indet k s
  cases h : final k s <;> simp_all [effectToBool]

theorem loopO_decision (k : EffectKind) (os : List Outcome) (idx : Nat) :
    effectToBool (final k (loopO k os {} idx).1) = .ok (spec k os) := by
  rw [effectToBool_final, loopO_spec k os {} idx (by cases k <;> rfl)]
  cases k <;> simp [spec]

/-- C01: for every effector, matcher, non-empty policy (any order, any multiplicity) and well-sized request, if
    every rule can be classified (right arity, matcher result bool/float), the decision is the effect expression
    over the rule outcomes -/
theorem enforce_eq_spec {ρ : Type} (cfg : Cfg) (m : List ρ → List String → MVal)
    (policy : List (List String)) (req : List ρ) (os : List Outcome)
    (hen : cfg.enabled = true) (har : cfg.rArity = req.length) (hne : policy ≠ [])
    (hos : allOutcomes cfg m req policy = .ok os) :
    enforce cfg m policy req = .ok (spec cfg.kind os) := by
  simp [enforce, enforceEx, hen, har, hne, loop_eq_loopO cfg m req policy os {} 0 hos, loopO_decision]

/-- allow-override without effect column and a matcher that answers a bool `f pv` on every rule of the right size:
    the decision is "some rule matches" -/
theorem enforce_any {ρ : Type} (cfg : Cfg) (m : List ρ → List String → MVal) (policy : List (List String))
    (req : List ρ) (f : List String → Bool) (hk : cfg.kind = .allowOverride) (he : cfg.eftCol = none)
    (hen : cfg.enabled = true) (har : cfg.rArity = req.length) (hne : policy ≠ [])
    (hm : ∀ pv ∈ policy, pv.length = cfg.pArity ∧ m req pv = .bool (f pv)) :
    enforce cfg m policy req = .ok (policy.any f) := by
  have hos : allOutcomes cfg m req policy = .ok (policy.map fun pv => if f pv then .mAllow else .noMatch) :=
    allOutcomes_eq_map fun pv hpv => by rw [ruleOutcome_bool cfg m req pv _ (hm pv hpv).1 (hm pv hpv).2, ruleEft, he]
  rw [enforce_eq_spec _ _ _ _ _ hen har hne hos, hk]
  simp only [spec, List.any_map]
  congr 2
  funext pv
  cases h : f pv <;> simp [h, Outcome.isAllow]

/-- an error of the rule loop is the error of one of its rules (wrong arity, or a matcher result that is neither
    bool nor number): the loop raises nothing of its own -/
theorem enforce_error_from_rule {ρ : Type} (cfg : Cfg) (m : List ρ → List String → MVal)
    (policy : List (List String)) (req : List ρ) (s : EffSet) (idx : Nat) (e : Err)
    (h : loop cfg m req policy s idx = .error e) :
    ∃ p ∈ policy, ruleOutcome cfg m req p = .error e := by
  induction policy generalizing s idx with
  | nil => simp [loop] at h
  | cons p ps ih =>
    unfold loop at h
    split at h
    · rename_i e' he; cases h; exact ⟨p, by simp, he⟩
    · obtain ⟨q, hq, hqe⟩ := ih _ _ h; exact ⟨q, by simp [hq], hqe⟩
    · simp only [] at h
      split at h
      · cases h
      · obtain ⟨q, hq, hqe⟩ := ih _ _ h; exact ⟨q, by simp [hq], hqe⟩

/-! ## Consequences for the specification itself -/

def demote : Outcome → Outcome | .mOther => .noMatch | o => o

theorem any_isAllow (os : List Outcome) : os.any (·.isAllow) = os.contains .mAllow := by
  rw [← List.any_beq']; congr 1; funext o; cases o <;> rfl

theorem any_isDeny (os : List Outcome) : os.any (·.isDeny) = os.contains .mDeny := by
  rw [← List.any_beq']; congr 1; funext o; cases o <;> rfl

/-- the effect expressions read only the decisive outcomes (allow, deny), in their order -/
theorem spec_filter_decisive (k : EffectKind) (os : List Outcome) : spec k (os.filter decisive) = spec k os := by
  have hm : ∀ o, decisive o = true → (os.filter decisive).contains o = os.contains o := fun o ho => by simp [ho]
  cases k <;> simp only [spec, any_isAllow, any_isDeny, List.find?_filter, and_self, Bool.decide_eq_true,
    hm .mAllow rfl, hm .mDeny rfl]

theorem spec_congr (k : EffectKind) {os os' : List Outcome} (h : os.filter decisive = os'.filter decisive) :
    spec k os = spec k os' := by
  rw [← spec_filter_decisive k os, h, spec_filter_decisive]

/-- rules whose effect is neither allow nor deny never decide -/
theorem other_never_decides (k : EffectKind) (os : List Outcome) :
    spec k os = spec k (os.map demote) := by
  apply spec_congr
  induction os with
  | nil => rfl
  | cons o os ih => cases o <;> simp_all [demote, decisive, Outcome.isAllow, Outcome.isDeny]

/-- only the matching rules take part -/
theorem nonmatching_irrelevant (k : EffectKind) (os : List Outcome) :
    spec k os = spec k (os.filter (!·.isNoMatch)) := by
  apply spec_congr
  rw [List.filter_filter]
  exact List.filter_congr fun o _ => by cases o <;> rfl

/-- the three order-insensitive effect expressions see only which matching outcomes occur -/
theorem spec_congr_mem (k : EffectKind) (hk : k ≠ .priority) (os os' : List Outcome)
    (h : ∀ o, o.isNoMatch = false → (o ∈ os ↔ o ∈ os')) : spec k os = spec k os' := by
  cases k with
  | priority => exact absurd rfl hk
  | _ => simp only [spec, any_isAllow, any_isDeny, List.contains_eq_mem, h .mAllow rfl, h .mDeny rfl]

theorem order_irrelevant (k : EffectKind) (hk : k ≠ .priority) (os os' : List Outcome)
    (hp : os.Perm os') : spec k os = spec k os' :=
  spec_congr_mem k hk os os' fun _ _ => hp.mem_iff

/-- empty policy: the matcher is judged once against empty rule fields -/
theorem empty_policy {ρ : Type} (cfg : Cfg) (m : List ρ → List String → MVal) (req : List ρ)
    (hen : cfg.enabled = true) (har : cfg.rArity = req.length) (hev : cfg.hasEval = false) :
    enforce cfg m [] req =
      .ok (spec cfg.kind [if (m req (List.replicate cfg.pArity "")).truthy then .mAllow else .noMatch]) := by
  unfold enforce enforceEx
  simp only [hen, har, hev, effectToBool_final, final_allow]
  cases cfg.kind <;> cases (m req (List.replicate cfg.pArity "")).truthy <;>
    simp [spec, EffSet.add, decisive, Outcome.isAllow, Outcome.isDeny]

theorem empty_policy_eval_raises {ρ : Type} (cfg : Cfg) (m : List ρ → List String → MVal) (req : List ρ)
    (hen : cfg.enabled = true) (har : cfg.rArity = req.length) (hev : cfg.hasEval = true) :
    enforce cfg m [] req = .error .evalOnEmptyPolicy := by
  unfold enforce enforceEx; simp [hen, har, hev]

/-- a disabled enforcer allows everything (even ill-sized requests), with an empty explanation -/
theorem disabled_allows {ρ : Type} (cfg : Cfg) (m : List ρ → List String → MVal)
    (policy : List (List String)) (req : List ρ) (hen : cfg.enabled = false) :
    enforceEx cfg m policy req = .ok (true, none) := by
  unfold enforceEx; simp [hen]

theorem bad_arity_raises {ρ : Type} (cfg : Cfg) (m : List ρ → List String → MVal)
    (policy : List (List String)) (req : List ρ) (hen : cfg.enabled = true)
    (har : cfg.rArity ≠ req.length) :
    enforce cfg m policy req = .error .invalidRequestSize := by
  unfold enforce enforceEx; simp [hen, har]

/-- a concrete configuration meeting the hypotheses of `enforce_eq_spec`, with a deny after an allow -/
example :
    let cfg : Cfg := { kind := .allowAndDeny, rArity := 1, pArity := 2, eftCol := some 1 }
    let m : List String → List String → MVal := fun r p => .bool (r[0]? == p[0]?)
    allOutcomes cfg m ["k"] [["k", "allow"], ["x", "deny"], ["k", "deny"]] = .ok [.mAllow, .noMatch, .mDeny] ∧
    enforce cfg m [["k", "allow"], ["x", "deny"], ["k", "deny"]] ["k"] = .ok false := by
  intro cfg m; decide

end Casbin.C01
