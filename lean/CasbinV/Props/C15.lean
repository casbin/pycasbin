import CasbinV.Model.Enforcer
import CasbinV.Props.C01
import CasbinV.Proofs.ListFacts
/-!
# C15 — the RBAC query API agrees with enforcement

Subject: `implicitRoles`, `implicitPermissions`, `implicitUsersForPermission`, `getRoles`, `getUsers`, `enforceQ .rbac`
(Model/Enforcer.lean = `enforcer.py` RBAC API + `core_enforcer.enforce`).
-/
namespace Casbin.Enf.C15
open Casbin.Policy

/-- reachable along at least one role assignment -/
def PathPlus (g : Graph) (u r : Name) : Prop := ∃ n, Path g u r (n + 1)

theorem pathPlus_snoc {g : Graph} {u v w : Name} (h : u = v ∨ PathPlus g u v) (e : (v, w) ∈ g) : PathPlus g u w := by
  rcases h with rfl | ⟨n, p⟩
  · exact ⟨0, Path.step e (Path.refl _)⟩
  · exact ⟨n + 1, path_snoc p e⟩

/-- one round appends the same list `d` of newly met names to the queue and to the result -/
theorem visitRoles_spec (rs queue res : List String) :
    ∃ d, visitRoles rs queue res = (queue ++ d, res ++ d) ∧ (∀ x, x ∈ d ↔ x ∈ rs ∧ x ∉ res) ∧
      (res.Nodup → (res ++ d).Nodup) := by
  induction rs generalizing queue res with
  | nil => exact ⟨[], by simp [visitRoles]⟩
  | cons r rs ih =>
    unfold visitRoles
    split
    · rename_i hr
      have hr : r ∈ res := by simpa using hr
      obtain ⟨d, h1, h2, h3⟩ := ih queue res
      refine ⟨d, h1, fun x => ?_, h3⟩
      rw [h2, List.mem_cons]
      refine and_congr_left fun hx => ⟨Or.inr, ?_⟩
      rintro (rfl | h)
      · exact absurd hr hx
      · exact h
    · rename_i hr
      have hr : r ∉ res := by simpa using hr
      obtain ⟨d, h1, h2, h3⟩ := ih (queue ++ [r]) (res ++ [r])
      refine ⟨r :: d, by simpa using h1, fun x => ?_, fun hn => ?_⟩
      · rw [List.mem_cons, h2, List.mem_cons, List.mem_append, List.mem_singleton]
        by_cases hx : x = r
        · simp [hx, hr]
        · simp [hx]
      · have := h3 (nodup_snoc hn hr)
        rwa [List.append_assoc] at this

/-- invariant of `while queue:`; `closed` carries the completeness half: every known name is still queued or has all
    its successors known, so with the queue empty the result is closed under the edges -/
structure LoopInv (g : Graph) (u : Name) (queue res : List String) : Prop where
  sound : ∀ r ∈ res, PathPlus g u r
  queued : ∀ q ∈ queue, q = u ∨ q ∈ res
  closed : ∀ x, (x = u ∨ x ∈ res) → x ∈ queue ∨ ∀ y, (x, y) ∈ g → y ∈ res
  nodup : res.Nodup

theorem loop_step (g : Graph) (u n : Name) (queue res : List String) (h : LoopInv g u (n :: queue) res) :
    LoopInv g u (visitRoles (succs g n) queue res).1 (visitRoles (succs g n) queue res).2 := by
  obtain ⟨d, hv, hd, hnd⟩ := visitRoles_spec (succs g n) queue res
  simp only [succs_mem] at hd
  rw [hv]
  have hn : u = n ∨ PathPlus g u n := (h.queued n (by simp)).imp Eq.symm (h.sound n)
  refine ⟨fun r hr => ?_, fun q hq => ?_, fun x hx => ?_, hnd h.nodup⟩
  · rcases List.mem_append.mp hr with hr | hr
    · exact h.sound r hr
    · exact pathPlus_snoc hn ((hd r).mp hr).1
  · rcases List.mem_append.mp hq with hq | hq
    · exact (h.queued q (List.mem_cons_of_mem _ hq)).imp_right (List.mem_append_left _)
    · exact Or.inr (List.mem_append_right _ hq)
  · by_cases hxd : x ∈ d
    · exact Or.inl (List.mem_append_right _ hxd)
    · rcases h.closed x (hx.imp_right fun h => (List.mem_append.mp h).resolve_right hxd) with hq | hc
      · rcases List.mem_cons.mp hq with rfl | hq
        · -- the popped node: each of its successors was known before or is new
          refine Or.inr fun y hy => List.mem_append.mpr ?_
          by_cases hyr : y ∈ res
          · exact Or.inl hyr
          · exact Or.inr ((hd y).mpr ⟨hy, hyr⟩)
        · exact Or.inl (List.mem_append_left _ hq)
      · exact Or.inr fun y hy => List.mem_append_left _ (hc y hy)

theorem loop_inv (g : Graph) (u : Name) (fuel : Nat) (queue res out : List String) (h : LoopInv g u queue res)
    (hout : implicitLoop g fuel queue res = some out) : LoopInv g u [] out := by
  fun_induction implicitLoop g fuel queue res with
  | case1 => cases hout; exact h
  | case2 => cases hout
  | case3 fuel n queue res q' res' hv ih => exact ih (by simpa [hv] using loop_step g u n queue res h) hout

theorem closed_complete (g : Graph) (u : Name) (res : List String) (h : LoopInv g u [] res) (r : Name)
    (hp : PathPlus g u r) : r ∈ res := by
  have hc : ∀ x, (x = u ∨ x ∈ res) → ∀ y, (x, y) ∈ g → y ∈ res := fun x hx =>
    (h.closed x hx).resolve_left (by simp)
  obtain ⟨n, p⟩ := hp
  cases p with
  | step he p' => exact path_closed (S := (· ∈ res)) (fun x y hx => hc x (Or.inr hx) y) p' (hc u (Or.inl rfl) _ he)

/-- C15: implicit roles = all roles reachable from the user (each once), whenever the loop terminates within its
    fuel — for every role graph (cycles, self-assignments, diamonds) and every depth -/
theorem implicit_roles_iff (store : List Rule) (u : String) (dom : Option String) (out : List String)
    (h : implicitRoles store u dom = some out) :
    (∀ r, r ∈ out ↔ PathPlus (edgesOf store dom) u r) ∧ out.Nodup := by
  have hinv := loop_inv (edgesOf store dom) u _ [u] [] out
    ⟨by simp, by simp, by intro x hx; simp at hx; simp [hx], List.nodup_nil⟩ h
  exact ⟨fun r => ⟨hinv.sound r, closed_complete _ u out hinv r⟩, hinv.nodup⟩

/-! ## inverse views -/

theorem getRoles_direct (store : List Rule) (dom : Option String) (u r : String) :
    r ∈ getRoles store u dom ↔ (u, r) ∈ edgesOf store dom := by
  simp [getRoles]

theorem mem_getUsers (store : List Rule) (dom : Option String) (u r : String) :
    u ∈ getUsers store r dom ↔ (u, r) ∈ edgesOf store dom := by
  simp [getUsers]

/-- `get_users_for_role` and `get_roles_for_user` are inverse views of the same assignments -/
theorem users_roles_inverse (store : List Rule) (dom : Option String) (u r : String) :
    u ∈ getUsers store r dom ↔ r ∈ getRoles store u dom := by
  rw [mem_getUsers, getRoles_direct]

/-! ## the edges of one domain -/

/-- the edge a stored link contributes to the graph of a domain: the function `edgesOf` maps over the store, at
    `some D` (hence the first arm, which cannot be taken: with it `edgesOf_eq` is `rfl`) -/
def edgeIn (D : String) (l : Rule) : Option (Name × Name) :=
  match l, some D with
  | [u, r], none => some (u, r)
  | [u, r, d], some d' => if d == d' then some (u, r) else none
  | _, _ => none

theorem edgesOf_eq (store : List Rule) (D : String) : edgesOf store (some D) = store.filterMap (edgeIn D) := rfl

theorem edgeIn_eq_some {D : String} {l : Rule} {e : Name × Name} : edgeIn D l = some e ↔ l = [e.1, e.2, D] := by
  unfold edgeIn
  split
  · rename_i h; cases h
  · rename_i u r d d' h; cases h
    by_cases hd : d = D
    · simp [hd, Prod.ext_iff]
    · simp [hd]
  · rename_i h; exact ⟨nofun, fun he => (h _ _ _ _ he rfl).elim⟩

theorem mem_edgesOf_dom {store : List Rule} {D : String} {e : Name × Name} :
    e ∈ edgesOf store (some D) ↔ [e.1, e.2, D] ∈ store := by
  simp [edgesOf_eq, List.mem_filterMap, edgeIn_eq_some]

/-! ## enforcement against the implicit permissions -/

theorem length_eq_three {α : Type} {l : List α} (h : l.length = 3) : ∃ a b c, l = [a, b, c] :=
  match l, h with
  | [a, b, c], _ => ⟨a, b, c, rfl⟩

theorem length_eq_four {α : Type} {l : List α} (h : l.length = 4) : ∃ a b c d, l = [a, b, c, d] :=
  match l, h with
  | [a, b, c, d], _ => ⟨a, b, c, d, rfl⟩

/-- for the allow-override shapes (no effect column), when the matcher answers a bool on every stored rule, the
    decision is "some rule matches" (`C01.enforce_any`) -/
theorem enforceQ_any (sh : Shape) (s : St) (req : List String) (f : Rule → Bool) (hreq : sh.arity = req.length)
    (hne : s.pol.p ≠ [])
    (hm : ∀ pv ∈ s.pol.p, pv.length = sh.arity ∧ matcher sh s.links req pv = .bool (f pv)) :
    enforceQ sh s req = .ok (s.pol.p.any f) :=
  C01.enforce_any _ _ _ _ f rfl rfl rfl hreq hne hm

/-- all permission rules have the three fields of the RBAC model -/
def PSized (l : List Rule) : Prop := ∀ r ∈ l, r.length = 3

def matchR (links : Pol) (rs ro ra : String) (pv : Rule) : Bool :=
  match pv with
  | ps :: po :: pa :: _ => hasLinkQ links.g rs ps none && ro == po && ra == pa
  | _ => false

/-- on a non-empty well-sized policy a request is allowed exactly when some rule matches (an empty policy is judged
    once against empty rule fields, `C01.empty_policy`: there the all-empty request is allowed though no rule matches) -/
theorem enforce_rbac (s : St) (rs ro ra : String) (h : PSized s.pol.p) (hne : s.pol.p ≠ []) :
    enforceQ .rbac s [rs, ro, ra] = .ok (s.pol.p.any (matchR s.links rs ro ra)) :=
  enforceQ_any .rbac s _ _ rfl hne fun pv hpv => ⟨h pv hpv, by
    obtain ⟨ps, po, pa, rfl⟩ := length_eq_three (h pv hpv)
    rfl⟩

/-- a request is allowed exactly when its object and action are those of a rule whose subject the request's subject
    holds -/
theorem enforce_rbac_iff (s : St) (rs ro ra : String) (h : PSized s.pol.p) (hne : s.pol.p ≠ []) :
    enforceQ .rbac s [rs, ro, ra] = .ok true ↔ ∃ ps, [ps, ro, ra] ∈ s.pol.p ∧ hasLinkQ s.links.g rs ps none = true := by
  rw [enforce_rbac s rs ro ra h hne, Except.ok.injEq, List.any_eq_true]
  constructor
  · rintro ⟨pv, hpv, hm⟩
    obtain ⟨ps, po, pa, rfl⟩ := length_eq_three (h pv hpv)
    simp only [matchR, Bool.and_eq_true, beq_iff_eq] at hm
    obtain ⟨⟨hl, rfl⟩, rfl⟩ := hm
    exact ⟨ps, hpv, hl⟩
  · rintro ⟨ps, hpv, hl⟩
    exact ⟨_, hpv, by simp [matchR, hl]⟩

/-- the role hierarchy above `u` stays within the configured depth: everything reachable is reachable in fewer
    than `max_hierarchy_level` steps -/
def DepthOK (g : Graph) (u : Name) : Prop := ∀ r, PathPlus g u r → ∃ n, n < maxLevel ∧ Path g u r n

/-- within the depth bound `has_link(u, ·)` holds of `u` and of its implicit roles, and of nothing else -/
theorem hasLinkQ_iff_implicit (store : List Rule) (u : String) (dom : Option String) (roles : List String)
    (h : implicitRoles store u dom = some roles) (hdepth : DepthOK (edgesOf store dom) u) (r : String) :
    hasLinkQ store u r dom = true ↔ r ∈ u :: roles := by
  rw [hasLinkQ, hasLink_iff, List.mem_cons, (implicit_roles_iff store u dom roles h).1, eq_comm]
  constructor
  · rintro (rfl | ⟨n, _, p⟩)
    · exact Or.inl rfl
    · cases p with
      | refl => exact Or.inl rfl
      | step he p' => exact Or.inr ⟨_, Path.step he p'⟩
  · exact Or.imp_right (hdepth r)

theorem mem_permissionsFor (p : List Rule) (user : String) (r : Rule) :
    r ∈ permissionsFor p user ↔ r ∈ p ∧ r[0]? = some user := by
  simp [permissionsFor]

/-- C15, enforce ⇔ implicit permission: in the RBAC model (allow-override, matcher = role membership on the subject
    plus equality on object and action), on a non-empty policy and within the depth bound, a request is allowed exactly
    when its object and action appear among `get_implicit_permissions_for_user` of the subject.  The subject `""` is
    outside the tie to the code: `get_filtered_policy` reads `""` as a wildcard, `permissionsFor` does not. -/
theorem enforce_iff_implicit_permission (s : St) (rs ro ra : String) (perms : List Rule)
    (hs : PSized s.pol.p) (hne : s.pol.p ≠ []) (hp : implicitPermissions s rs = some perms)
    (hdepth : DepthOK (edgesOf s.links.g none) rs) :
    enforceQ .rbac s [rs, ro, ra] = .ok true ↔ ∃ ps, [ps, ro, ra] ∈ perms := by
  unfold implicitPermissions at hp
  cases hroles : implicitRoles s.links.g rs none with
  | none => simp [hroles] at hp
  | some roles =>
    simp only [hroles, Option.map_some, Option.some.injEq] at hp
    subst hp
    rw [enforce_rbac_iff s rs ro ra hs hne]
    refine exists_congr fun ps => ?_
    rw [hasLinkQ_iff_implicit _ _ _ _ hroles hdepth, List.mem_flatMap]
    simp only [mem_permissionsFor, List.getElem?_cons_zero, Option.some.injEq]
    exact ⟨fun ⟨h1, h2⟩ => ⟨ps, h2, h1, rfl⟩, fun ⟨_, h2, h1, e⟩ => ⟨h1, e ▸ h2⟩⟩

/-! ## implicit users of a permission -/

theorem dedupS_mem (l : List String) (x : String) : x ∈ dedupS l ↔ x ∈ l := by
  induction l with
  | nil => simp [dedupS]
  | cons a as ih => by_cases h : x = a <;> simp [dedupS, ih, h]

theorem dedupS_nodup (l : List String) : (dedupS l).Nodup := by
  induction l with
  | nil => simp [dedupS]
  | cons a as ih => exact List.nodup_cons.mpr ⟨by simp, ih.filter _⟩

/-- C15: the implicit users of a permission are returned once each, exactly the subjects of the policy that are not a
    role and for which `enforce` allows the permission -/
theorem implicit_users_exact (s : St) (perm : List String) :
    (∀ x, x ∈ implicitUsersForPermission s perm ↔
      (x ∈ fieldValues s.pol.g 0 ∨ x ∈ fieldValues s.pol.p 0) ∧ x ∉ fieldValues s.pol.g 1 ∧
      enforceQ .rbac s (x :: perm) = .ok true) ∧
    (implicitUsersForPermission s perm).Nodup := by
  unfold implicitUsersForPermission
  refine ⟨fun x => ?_, ((dedupS_nodup _).filter _).filter _⟩
  simp only [List.mem_filter, dedupS_mem, List.mem_append, Bool.not_eq_true', List.contains_eq_mem,
    decide_eq_false_iff_not, and_assoc]
  refine and_congr_right fun _ => and_congr_right fun _ => ?_
  split <;> simp_all

example :
    let s : St := { pol := { p := [["admin", "data1", "read"]], g := [["alice", "admin"]] },
                    links := { g := [["alice", "admin"]] } }
    implicitRoles s.links.g "alice" none = some ["admin"] ∧
    implicitPermissions s "alice" = some [["admin", "data1", "read"]] ∧
    enforceQ .rbac s ["alice", "data1", "read"] = .ok true ∧
    implicitUsersForPermission s ["data1", "read"] = ["alice"] := by
  decide

end Casbin.Enf.C15
