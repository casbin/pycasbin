import CasbinV.Props.C15
/-!
# C15 — the fuel of the implicit-roles worklist loop always suffices
-/
namespace Casbin.Enf.C15
open Casbin.Policy

theorem succs_sub_names (g : Graph) (n x : String) (h : x ∈ succs g n) : x ∈ namesOf g := by
  rw [namesOf, List.mem_eraseDups]
  exact List.mem_append_right _ (List.mem_map.mpr ⟨(n, x), succs_mem.mp h, rfl⟩)

/-- the loop terminates within any fuel exceeding `queue.length + (names − |res|)` -/
theorem loop_terminates (g : Graph) (fuel : Nat) (queue res : List String) (hd : res.Nodup)
    (hsub : ∀ x ∈ res, x ∈ namesOf g) (hf : queue.length + ((namesOf g).length - res.length) < fuel) :
    ∃ out, implicitLoop g fuel queue res = some out := by
  fun_induction implicitLoop g fuel queue res with
  | case1 => exact ⟨_, rfl⟩
  | case2 => omega
  | case3 fuel n queue res q' res' hv ih =>
    -- a round moves `|d|` names from "not yet met" to the queue and takes one off the queue
    obtain ⟨d, hd', hmem, hnd⟩ := visitRoles_spec (succs g n) queue res
    obtain ⟨rfl, rfl⟩ := Prod.mk.inj (hv.symm.trans hd')
    have hsub' : ∀ x ∈ res ++ d, x ∈ namesOf g := fun x hx =>
      (List.mem_append.mp hx).elim (hsub x) fun h => succs_sub_names g n x ((hmem x).mp h).1
    have := (hnd hd).length_le_of_subset hsub'
    have := hd.length_le_of_subset hsub
    refine ih (hnd hd) hsub' ?_
    simp only [List.length_cons, List.length_append] at *
    omega

/-- `get_implicit_roles_for_user` always returns: the fuel `names + 2` is never exhausted -/
theorem implicitRoles_total (store : List Rule) (u : String) (dom : Option String) :
    ∃ out, implicitRoles store u dom = some out :=
  loop_terminates _ _ _ _ List.nodup_nil (by simp) (by simp only [List.length_cons, List.length_nil]; omega)

/-- C15, `implicit_roles_iff` without its hypothesis: the result lists, once each, exactly the reachable roles -/
theorem implicit_roles_exact (store : List Rule) (u : String) (dom : Option String) :
    ∃ out, implicitRoles store u dom = some out ∧ (∀ r, r ∈ out ↔ PathPlus (edgesOf store dom) u r) ∧ out.Nodup := by
  obtain ⟨out, h⟩ := implicitRoles_total store u dom
  exact ⟨out, h, implicit_roles_iff store u dom out h⟩

end Casbin.Enf.C15
