import CasbinV.Proofs.EnfStep
import CasbinV.Props.C06u
/-!
# C04 — role links always reflect the grouping policy

Subject: `Casbin.Enf.step` (Model/Enforcer.lean).  `Coherent`: in every role definition the link store is a
duplicate-free list holding exactly the stored grouping rules.  It holds after construction/load, every management
call preserves it (with `auto_build_role_links` on), and under it every decision and role query equals that of a
freshly constructed enforcer holding the same policy.
-/
namespace Casbin.Enf.C04
open Casbin.Policy Casbin.Policy.C06

theorem addLink_mem (store : List Rule) (l x : Rule) : x ∈ addLink store l ↔ x ∈ store ∨ x = l :=
  mem_setInsert.trans or_comm

theorem addLink_nodup (store : List Rule) (l : Rule) (hd : store.Nodup) : (addLink store l).Nodup := nodup_setInsert hd

theorem delLink_mem (store : List Rule) (l x : Rule) (hd : store.Nodup) :
    x ∈ delLink store l ↔ x ∈ store ∧ x ≠ l := by
  unfold delLink; rw [hd.mem_erase_iff]; exact and_comm

theorem delLink_nodup (store : List Rule) (l : Rule) (hd : store.Nodup) : (delLink store l).Nodup :=
  hd.erase l

/-- every rule has at least as many fields as the role definition has `_` (shorter ones are refused, F27; longer ones
    are truncated to their link) -/
def Sized (count : Nat) (rs : List Rule) : Prop := ∀ r ∈ rs, count ≤ r.length

/-- `x` is the link of one of the rules: the rule cut to the role definition's size -/
def LinkOf (count : Nat) (rules : List Rule) (x : Rule) : Prop := ∃ r ∈ rules, r.take count = x

theorem LinkOf.append {count : Nat} {a b : List Rule} {x : Rule} :
    LinkOf count (a ++ b) x ↔ LinkOf count a x ∨ LinkOf count b x := by
  simp only [LinkOf, List.mem_append, or_and_right, exists_or]

theorem LinkOf.congr {count : Nat} {a b : List Rule} (h : ∀ r, r ∈ a ↔ r ∈ b) (x : Rule) :
    LinkOf count a x ↔ LinkOf count b x := by
  simp only [LinkOf, h]

theorem LinkOf.cons {count : Nat} {r : Rule} {rs : List Rule} {x : Rule} :
    LinkOf count (r :: rs) x ↔ r.take count = x ∨ LinkOf count rs x := by
  simp [LinkOf]

theorem incLinks_add (count : Nat) (pol rs store : List Rule) (hs : Sized count rs) (hd : store.Nodup) :
    ∃ res, incLinks count true pol store rs = .ok res ∧ res.Nodup ∧ ∀ x, x ∈ res ↔ x ∈ store ∨ LinkOf count rs x := by
  induction rs generalizing store with
  | nil => exact ⟨store, rfl, hd, by simp [LinkOf]⟩
  | cons r rs ih =>
    have hr : ¬ r.length < count := Nat.not_lt.mpr (hs r (by simp))
    obtain ⟨res, h1, h2, h3⟩ := ih (addLink store (r.take count)) (fun x hx => hs x (by simp [hx]))
      (addLink_nodup store _ hd)
    refine ⟨res, ?_, h2, fun x => ?_⟩
    · unfold incLinks; simp only [hr, ↓reduceIte]; exact h1
    · rw [h3, addLink_mem, LinkOf.cons, or_assoc, eq_comm]

/-- incremental removal of well-sized `rs` from any duplicate-free store, `pol` being the rules that remain: what goes
    are the links of `rs` that no remaining rule shares -/
theorem incLinks_remove (count : Nat) (pol rs store : List Rule) (hs : Sized count rs) (hd : store.Nodup) :
    ∃ res, incLinks count false pol store rs = .ok res ∧ res.Nodup ∧
      ∀ x, x ∈ res ↔ x ∈ store ∧ (LinkOf count rs x → LinkOf count pol x) := by
  induction rs generalizing store with
  | nil => exact ⟨store, rfl, hd, by simp [LinkOf]⟩
  | cons r rs ih =>
    have hr : ¬ r.length < count := Nat.not_lt.mpr (hs r (by simp))
    have hrs : Sized count rs := fun x hx => hs x (by simp [hx])
    have hshare : pol.any (fun o => o.take count == r.take count) = true ↔ LinkOf count pol (r.take count) := by
      simp [LinkOf]
    unfold incLinks
    simp only [hr, ↓reduceIte, Bool.false_eq_true]
    split
    · -- the link is shared with a remaining rule: it stays
      rename_i hsh
      obtain ⟨res, h1, h2, h3⟩ := ih store hrs hd
      refine ⟨res, h1, h2, fun x => ?_⟩
      rw [h3, LinkOf.cons]
      refine and_congr_right fun _ => ⟨fun hi hx => ?_, fun hi hx => hi (.inr hx)⟩
      rcases hx with rfl | hx
      · exact hshare.mp hsh
      · exact hi hx
    · -- no remaining rule shares the link: it is deleted, and it is not among the links that are to stay
      rename_i hsh
      obtain ⟨res, h1, h2, h3⟩ := ih (delLink store (r.take count)) hrs (delLink_nodup store _ hd)
      refine ⟨res, h1, h2, fun x => ?_⟩
      rw [h3, delLink_mem _ _ _ hd, LinkOf.cons]
      constructor
      · rintro ⟨⟨hx, hne⟩, hi⟩
        refine ⟨hx, ?_⟩
        rintro (e | hrs)
        · exact absurd e.symm hne
        · exact hi hrs
      · rintro ⟨hx, hi⟩
        refine ⟨⟨hx, ?_⟩, fun hrs => hi (.inr hrs)⟩
        rintro rfl
        exact hsh (hshare.mpr (hi (.inl rfl)))

theorem incLinks_del (count : Nat) (pol rs store : List Rule) (hs : Sized count rs) (hd : store.Nodup)
    (ha : ∀ o ∈ pol, o.take count ∈ store)
    (hb : ∀ x ∈ store, LinkOf count pol x ∨ LinkOf count rs x) :
    ∃ res, incLinks count false pol store rs = .ok res ∧ res.Nodup ∧ ∀ x, x ∈ res ↔ LinkOf count pol x := by
  obtain ⟨res, h1, h2, h3⟩ := incLinks_remove count pol rs store hs hd
  refine ⟨res, h1, h2, fun x => ?_⟩
  rw [h3]
  constructor
  · -- a stored link is one of `pol`, or one of `rs`, which stays only as a link of `pol`
    rintro ⟨hx, hi⟩
    exact (hb x hx).elim id hi
  · rintro ⟨o, ho, rfl⟩
    exact ⟨ha o ho, fun _ => ⟨o, ho, rfl⟩⟩

theorem buildLinks_spec (count : Nat) (rules : List Rule) (hs : Sized count rules) :
    ∃ res, buildLinks count rules = .ok res ∧ res.Nodup ∧ ∀ x, x ∈ res ↔ LinkOf count rules x := by
  obtain ⟨res, h1, h2, h3⟩ := incLinks_add count [] rules [] hs List.nodup_nil
  exact ⟨res, h1, h2, by intro x; rw [h3]; simp⟩

/-- the link store of one role definition reflects its grouping rules -/
structure CohSec (count : Nat) (links rules : List Rule) : Prop where
  sized : Sized count rules
  nodupL : links.Nodup
  nodupR : rules.Nodup
  same : ∀ x, x ∈ links ↔ LinkOf count rules x

/-- every role definition of the model is coherent, the permission rules are duplicate-free, and
    `auto_build_role_links` is on (with the flag off the links lag behind the rules by design: `OpOK` forbids
    switching it off) -/
structure Coherent (cfg : Cfg) (s : St) : Prop where
  g : CohSec cfg.gCount s.links.g s.pol.g
  g2 : CohSec cfg.g2Count s.links.g2 s.pol.g2
  p : s.pol.p.Nodup
  auto : s.autoBuild = true

theorem CohSec.nil (count : Nat) : CohSec count [] [] :=
  ⟨nofun, List.nodup_nil, List.nodup_nil, by simp [LinkOf]⟩

theorem Coherent.sec {cfg : Cfg} {s : St} (h : Coherent cfg s) (sec : Sec) (hsec : sec ≠ .p) :
    CohSec (cfg.count sec) (s.links.get sec) (s.pol.get sec) := by
  cases sec
  · exact absurd rfl hsec
  · exact h.g
  · exact h.g2

structure PolOK (cfg : Cfg) (pol : Pol) : Prop where
  p : pol.p.Nodup
  g : pol.g.Nodup
  g2 : pol.g2.Nodup
  sg : Sized cfg.gCount pol.g
  sg2 : Sized cfg.g2Count pol.g2

/-- admissible calls: `auto_build_role_links` is not switched off (grouping rules of ANY size may be passed to the
    management calls: shorter ones are refused before anything is stored, F27; longer ones are truncated to links, F28),
    and what the adapter delivers on `load_policy` is a well-formed policy -/
def OpOK (cfg : Cfg) (s : St) : Op → Prop
  | .enableAutoBuild b => b = true
  | .loadPolicy _ => PolOK cfg s.store
  | _ => True

theorem set_get_other (m : Pol) (sec sec' : Sec) (l : List Rule) (h : sec' ≠ sec) :
    (m.set sec l).get sec' = m.get sec' := by
  cases sec <;> cases sec' <;> first | rfl | exact absurd rfl h

theorem coherent_of_sections (cfg : Cfg) (s : St)
    (hg : CohSec cfg.gCount (s.links.get .g) (s.pol.get .g))
    (hg2 : CohSec cfg.g2Count (s.links.get .g2) (s.pol.get .g2))
    (hp : (s.pol.get .p).Nodup) (ha : s.autoBuild = true) : Coherent cfg s :=
  ⟨hg, hg2, hp, ha⟩

theorem Coherent.nodup {cfg : Cfg} {s : St} (h : Coherent cfg s) (sec : Sec) : (s.pol.get sec).Nodup := by
  cases sec
  · exact h.p
  · exact h.g.nodupR
  · exact h.g2.nodupR

/-- the rules of one section are replaced, its links consistently (the links of `p` are not looked at) -/
theorem Coherent.set {cfg : Cfg} {s s' : St} (h : Coherent cfg s) (sec : Sec) (l links : List Rule) (hl : l.Nodup)
    (hg : sec ≠ .p → CohSec (cfg.count sec) links l) (hpol : s'.pol = s.pol.set sec l)
    (hlinks : s'.links = s.links.set sec links) (ha : s'.autoBuild = true) : Coherent cfg s' := by
  cases sec with
  | p => exact ⟨by rw [hlinks, hpol]; exact h.g, by rw [hlinks, hpol]; exact h.g2, by rw [hpol]; exact hl, ha⟩
  | g => exact ⟨by rw [hlinks, hpol]; exact hg nofun, by rw [hlinks, hpol]; exact h.g2, by rw [hpol]; exact h.p, ha⟩
  | g2 => exact ⟨by rw [hlinks, hpol]; exact h.g, by rw [hlinks, hpol]; exact hg nofun, by rw [hpol]; exact h.p, ha⟩

/-- a change keeps coherence when the new rules are duplicate-free and, in a grouping section, are the old rules
    with the well-sized `rules` added, or the old rules without `rules` -/
theorem coherent_commit {cfg : Cfg} {s : St} (h : Coherent cfg s) (ch : Change) (hl : ch.l.Nodup)
    (hs : ch.sec ≠ .p → Sized (cfg.count ch.sec) ch.rules)
    (hmem : ch.sec ≠ .p → ∀ x, x ∈ ch.l ↔
      if ch.add then x ∈ s.pol.get ch.sec ∨ x ∈ ch.rules else x ∈ s.pol.get ch.sec ∧ x ∉ ch.rules) :
    Coherent cfg (commit cfg s ch).1 := by
  by_cases hsec : ch.sec = .p
  · exact h.set ch.sec ch.l _ hl (fun e => absurd hsec e) rfl (commit_links_ok (Change.links_quiet (.inl hsec))) h.auto
  · have hc := h.sec ch.sec hsec
    have hm := hmem hsec
    have hsz : Sized (cfg.count ch.sec) ch.l := fun x hx => by
      have := (hm x).mp hx
      split at this
      · exact this.elim (hc.sized x) (hs hsec x)
      · exact hc.sized x this.1
    obtain ⟨res, hres, hnd, hsame⟩ : ∃ res, ch.links cfg s = .ok res ∧ res.Nodup ∧
        ∀ x, x ∈ res ↔ LinkOf (cfg.count ch.sec) ch.l x := by
      rw [Change.links_grouping hsec h.auto]
      cases hadd : ch.add with
      | true =>
        simp only [hadd, ↓reduceIte] at hm
        obtain ⟨res, h1, h2, h3⟩ := incLinks_add (cfg.count ch.sec) ch.l ch.rules _ (hs hsec) hc.nodupL
        refine ⟨res, h1, h2, fun x => ?_⟩
        rw [h3, hc.same, ← LinkOf.append]
        exact LinkOf.congr (fun r => by simp [hm]) x
      | false =>
        simp only [hadd, Bool.false_eq_true, ↓reduceIte] at hm
        refine incLinks_del (cfg.count ch.sec) ch.l ch.rules _ (hs hsec) hc.nodupL
          (fun o ho => (hc.same _).mpr ⟨o, ((hm o).mp ho).1, rfl⟩) fun x hx => ?_
        obtain ⟨r, hr, he⟩ := (hc.same x).mp hx
        by_cases hin : r ∈ ch.rules
        · exact .inr ⟨r, hin, he⟩
        · exact .inl ⟨r, (hm r).mpr ⟨hr, hin⟩, he⟩
    exact h.set ch.sec ch.l res hl (fun _ => ⟨hsz, hnd, hl, hsame⟩) rfl (commit_links_ok hres) h.auto

theorem not_short (cfg : Cfg) (sec : Sec) (rs : List Rule) (hs : shortFor cfg sec rs = false) :
    sec ≠ .p → Sized (cfg.count sec) rs := by
  intro hsec r hr
  have : (sec != Sec.p) = true := by simpa using hsec
  simp only [shortFor, this, Bool.true_and, List.any_eq_false, decide_eq_true_eq, Nat.not_lt] at hs
  exact hs r hr

/-- every call that goes through commits a change of the kind `coherent_commit` asks for (C06 says what the new rules are) -/
theorem _root_.Casbin.Enf.Commits.coherent {cfg : Cfg} {s : St} {op : Op} {ch : Change} (h : Coherent cfg s)
    (hc : Commits cfg s op ch) : Coherent cfg (commit cfg s ch).1 := by
  cases hc with
  | @add sec r l ha hs =>
    obtain rfl : (Policy.add none (s.pol.get sec) r).1 = l := by rw [ha]
    exact coherent_commit h _ (add_nodup none _ r (h.nodup sec)) (not_short cfg sec [r] hs)
      fun _ x => by simp [add_mem]
  | @addMany sec rs l ha hs =>
    have hsucc := addMany_success none (s.pol.get sec) rs (h.nodup sec) (by rw [ha])
    obtain rfl : (Policy.addMany none (s.pol.get sec) rs).1 = l := by rw [ha]
    exact coherent_commit h _ hsucc.2 (not_short cfg sec rs hs) fun _ x => by simp [hsucc.1]
  | @remove sec r l hr =>
    have hin := (remove_ok hr).1
    obtain rfl : (Policy.remove (s.pol.get sec) r).1 = l := by rw [hr]
    exact coherent_commit h _ (remove_nodup _ r (h.nodup sec))
      (fun hsec x hx => by simp at hx; subst hx; exact (h.sec sec hsec).sized x hin)
      fun _ x => by simp [remove_mem _ _ _ (h.nodup sec)]
  | @removeMany sec rs l hr =>
    have hall := (removeMany_ok hr).1
    have hsucc := removeMany_success (s.pol.get sec) rs (h.nodup sec) (by rw [hr])
    obtain rfl : (Policy.removeMany (s.pol.get sec) rs).1 = l := by rw [hr]
    exact coherent_commit h _ (removeMany_nodup _ rs (h.nodup sec))
      (fun hsec x hx => (h.sec sec hsec).sized x (hall x hx)) fun _ x => by simp [hsucc.1]
  | @removeFiltered sec idx vals y ys no hp =>
    obtain ⟨hy, hn⟩ := partitionFiltered_ok _ _ _ _ _ hp
    refine coherent_commit h _ (hn ▸ (h.nodup sec).filter _)
      (fun hsec x hx => (h.sec sec hsec).sized x ?_) fun _ x => ?_
    · rw [hy] at hx; exact (List.mem_filter.mp hx).1
    · simp only [hn, hy, List.mem_filter, Bool.false_eq_true, ↓reduceIte]; grind
  | @update old new l hu =>
    rw [update_refines _ _ _ (h.nodup .p)] at hu
    obtain rfl : (Spec.update (s.pol.get .p) old new).1 = l := congrArg Prod.fst (Except.ok.inj hu)
    exact coherent_commit h _ (spec_update_nodup _ _ _ h.p) (fun e => absurd rfl e) fun e => absurd rfl e
  | @updateMany olds news l hu =>
    exact coherent_commit h _ (updateMany_nodup _ olds news l true h.p hu) (fun e => absurd rfl e) fun e => absurd rfl e

theorem rebuildAll_spec (cfg : Cfg) (pol : Pol) (hg : Sized cfg.gCount pol.g) (hg2 : Sized cfg.g2Count pol.g2) :
    ∃ l, rebuildAll cfg pol = .ok l ∧ l.g.Nodup ∧ l.g2.Nodup ∧ (∀ x, x ∈ l.g ↔ LinkOf cfg.gCount pol.g x) ∧
      (∀ x, x ∈ l.g2 ↔ LinkOf cfg.g2Count pol.g2 x) := by
  obtain ⟨a, ha1, ha2, ha3⟩ := buildLinks_spec cfg.gCount pol.g hg
  obtain ⟨b, hb1, hb2, hb3⟩ := buildLinks_spec cfg.g2Count pol.g2 hg2
  exact ⟨{ p := [], g := a, g2 := b }, by simp [rebuildAll, ha1, hb1], ha2, hb2, ha3, hb3⟩

/-- the state after construction and `load_policy` of a well-formed policy is coherent -/
theorem coherent_init (cfg : Cfg) (pol : Pol) (hok : PolOK cfg pol) :
    ∃ l, rebuildAll cfg pol = .ok l ∧ Coherent cfg { pol := pol, links := l, store := pol } := by
  obtain ⟨l, h1, h2, h3, h4, h5⟩ := rebuildAll_spec cfg pol hok.sg hok.sg2
  exact ⟨l, h1, ⟨hok.sg, h2, hok.g, h4⟩, ⟨hok.sg2, h3, hok.g2, h5⟩, hok.p, rfl⟩

theorem coherent_relinked (cfg : Cfg) (s : St) (h : Coherent cfg s) (s' : St) (l : Pol)
    (hl : rebuildAll cfg s.pol = .ok l) (hpol : s'.pol = s.pol) (hlinks : s'.links = l) (ha : s'.autoBuild = true) :
    Coherent cfg s' := by
  obtain ⟨l', h1, h2, h3, h4, h5⟩ := rebuildAll_spec cfg s.pol h.g.sized h.g2.sized
  rw [hl] at h1; cases h1
  exact ⟨by rw [hlinks, hpol]; exact ⟨h.g.sized, h2, h.g.nodupR, h4⟩,
         by rw [hlinks, hpol]; exact ⟨h.g2.sized, h3, h.g2.nodupR, h5⟩, by rw [hpol]; exact h.p, ha⟩

theorem coherent_congr (cfg : Cfg) (s s' : St) (h : Coherent cfg s) (h1 : s'.pol = s.pol) (h2 : s'.links = s.links)
    (h3 : s'.autoBuild = s.autoBuild) : Coherent cfg s' :=
  ⟨by rw [h1, h2]; exact h.g, by rw [h1, h2]; exact h.g2, by rw [h1]; exact h.p, by rw [h3]; exact h.auto⟩

/-- C04, the invariant step: every admissible management call preserves coherence — also when it is rejected, reports
    "already present", raises, or is a no-op -/
theorem coherent_step (cfg : Cfg) (s : St) (op : Op) (h : Coherent cfg s) (hop : OpOK cfg s op) :
    Coherent cfg (step cfg s op).1 := by
  by_cases hch : C20.isChange op = true
  · exact step_of_commits cfg s op hch h fun _ hc => hc.coherent h
  cases op with
  | clearPolicy =>
    simp only [step, h.auto, ↓reduceIte]
    exact ⟨.nil _, .nil _, List.nodup_nil, rfl⟩
  | buildRoleLinks =>
    simp only [step]
    obtain ⟨l, h1, _⟩ := rebuildAll_spec cfg s.pol h.g.sized h.g2.sized
    rw [h1]
    exact coherent_relinked cfg s h _ l h1 rfl rfl h.auto
  | savePolicy =>
    simp only [step]
    split <;> exact coherent_congr cfg s _ h rfl rfl rfl
  | loadPolicy failAfter =>
    simp only [step]
    split
    · exact coherent_congr cfg s _ h rfl rfl rfl
    · obtain ⟨l, h1, hc⟩ := coherent_init cfg s.store hop
      simp only [loadCore, h.auto, ↓reduceIte, h1]
      exact coherent_congr cfg _ _ hc rfl rfl rfl
  | enableAutoSave b => exact coherent_congr cfg s _ h rfl rfl rfl
  | enableAutoBuild b =>
    have : b = true := hop
    subst this
    exact ⟨h.g, h.g2, h.p, rfl⟩
  | enableAutoNotify b => exact coherent_congr cfg s _ h rfl rfl rfl
  | _ => exact absurd rfl hch

/-- admissibility of a whole history (each call judged in the state it is issued in) -/
def RunOK (cfg : Cfg) : St → List Op → Prop
  | _, [] => True
  | s, op :: ops => OpOK cfg s op ∧ RunOK cfg (step cfg s op).1 ops

/-- C04, the invariant: coherence holds after every admissible history -/
theorem coherent_run (cfg : Cfg) (ops : List Op) (s : St) (h : Coherent cfg s) (hok : RunOK cfg s ops) :
    Coherent cfg (run cfg s ops) := by
  induction ops generalizing s with
  | nil => exact h
  | cons op ops ih =>
    simp only [run, List.foldl_cons]
    exact ih _ (coherent_step cfg s op h hok.1) hok.2

/-! ## observational equivalence with a freshly constructed enforcer -/

theorem edgesOf_congr (a b : List Rule) (h : ∀ x, x ∈ a ↔ x ∈ b) (d : Option String) (e : Name × Name) :
    e ∈ edgesOf a d ↔ e ∈ edgesOf b d := by
  simp only [edgesOf, List.mem_filterMap, h]

theorem hasLink_congr (g1 g2 : Graph) (h : ∀ e, e ∈ g1 ↔ e ∈ g2) (L : Nat) (a b : Name) :
    hasLink g1 L a b = hasLink g2 L a b := by
  rw [Bool.eq_iff_iff, hasLink_iff, hasLink_iff]
  exact or_congr_right (exists_congr fun n => and_congr_right fun _ =>
    ⟨Path.mono fun e => (h e).mp, Path.mono fun e => (h e).mpr⟩)

theorem hasLinkQ_congr (a b : List Rule) (h : ∀ x, x ∈ a ↔ x ∈ b) (n1 n2 : String) (d : Option String) :
    hasLinkQ a n1 n2 d = hasLinkQ b n1 n2 d :=
  hasLink_congr _ _ (edgesOf_congr a b h d) _ _ _

theorem getRoles_congr (a b : List Rule) (h : ∀ x, x ∈ a ↔ x ∈ b) (n : String) (d : Option String) (x : String) :
    x ∈ getRoles a n d ↔ x ∈ getRoles b n d := by
  simp only [getRoles, List.mem_map, List.mem_filter, edgesOf_congr a b h d]

theorem getUsers_congr (a b : List Rule) (h : ∀ x, x ∈ a ↔ x ∈ b) (n : String) (d : Option String) (x : String) :
    x ∈ getUsers a n d ↔ x ∈ getUsers b n d := by
  simp only [getUsers, List.mem_map, List.mem_filter, edgesOf_congr a b h d]

theorem matcher_congr (sh : Shape) (l1 l2 : Pol) (hg : ∀ x, x ∈ l1.g ↔ x ∈ l2.g) (hg2 : ∀ x, x ∈ l1.g2 ↔ x ∈ l2.g2) :
    matcher sh l1 = matcher sh l2 := by
  funext req pv
  unfold matcher
  split <;> simp only [hasLinkQ_congr _ _ hg, hasLinkQ_congr _ _ hg2]

/-- states holding the same permission rules and, as sets, the same links answer every query alike -/
theorem answers_congr (s s' : St) (hp : s'.pol.p = s.pol.p) (hg : ∀ x, x ∈ s'.links.g ↔ x ∈ s.links.g)
    (hg2 : ∀ x, x ∈ s'.links.g2 ↔ x ∈ s.links.g2) :
    (∀ n1 n2 d, hasLinkQ s'.links.g n1 n2 d = hasLinkQ s.links.g n1 n2 d) ∧
    (∀ n1 n2 d, hasLinkQ s'.links.g2 n1 n2 d = hasLinkQ s.links.g2 n1 n2 d) ∧
    (∀ n d x, x ∈ getRoles s'.links.g n d ↔ x ∈ getRoles s.links.g n d) ∧
    (∀ n d x, x ∈ getUsers s'.links.g n d ↔ x ∈ getUsers s.links.g n d) ∧
    (∀ n d x, x ∈ getRoles s'.links.g2 n d ↔ x ∈ getRoles s.links.g2 n d) ∧
    (∀ n d x, x ∈ getUsers s'.links.g2 n d ↔ x ∈ getUsers s.links.g2 n d) ∧
    (∀ sh req, enforceQ sh s' req = enforceQ sh s req) :=
  ⟨fun _ _ _ => hasLinkQ_congr _ _ hg _ _ _, fun _ _ _ => hasLinkQ_congr _ _ hg2 _ _ _,
    fun _ _ _ => getRoles_congr _ _ hg _ _ _, fun _ _ _ => getUsers_congr _ _ hg _ _ _,
    fun _ _ _ => getRoles_congr _ _ hg2 _ _ _, fun _ _ _ => getUsers_congr _ _ hg2 _ _ _,
    fun sh req => by unfold enforceQ; rw [matcher_congr sh s'.links s.links hg hg2, hp]⟩

theorem Coherent.links_iff {cfg : Cfg} {s s' : St} (h : Coherent cfg s) (h' : Coherent cfg s') (hpol : s'.pol = s.pol) :
    (∀ x, x ∈ s'.links.g ↔ x ∈ s.links.g) ∧ (∀ x, x ∈ s'.links.g2 ↔ x ∈ s.links.g2) :=
  ⟨fun x => by rw [h'.g.same, h.g.same, hpol], fun x => by rw [h'.g2.same, h.g2.same, hpol]⟩

/-- the links a freshly constructed enforcer holding the current policy would have (the `.error` branch is not taken
    when the grouping rules are `Sized`, in particular in a coherent state: `rebuildAll_spec`) -/
def freshLinks (cfg : Cfg) (s : St) : Pol :=
  match rebuildAll cfg s.pol with
  | .ok l => l
  | .error _ => s.links

/-- C04: in a coherent state every role query and every decision equals that of a freshly constructed enforcer
    holding the current policy (whatever history led here) -/
theorem observational (cfg : Cfg) (sh : Shape) (s : St) (h : Coherent cfg s) :
    (∀ n1 n2 d, hasLinkQ s.links.g n1 n2 d = hasLinkQ (freshLinks cfg s).g n1 n2 d) ∧
    (∀ n1 n2 d, hasLinkQ s.links.g2 n1 n2 d = hasLinkQ (freshLinks cfg s).g2 n1 n2 d) ∧
    (∀ n d x, x ∈ getRoles s.links.g n d ↔ x ∈ getRoles (freshLinks cfg s).g n d) ∧
    (∀ n d x, x ∈ getUsers s.links.g n d ↔ x ∈ getUsers (freshLinks cfg s).g n d) ∧
    (∀ n d x, x ∈ getRoles s.links.g2 n d ↔ x ∈ getRoles (freshLinks cfg s).g2 n d) ∧
    (∀ n d x, x ∈ getUsers s.links.g2 n d ↔ x ∈ getUsers (freshLinks cfg s).g2 n d) ∧
    (∀ req, enforceQ sh s req = enforceQ sh { s with links := freshLinks cfg s } req) := by
  obtain ⟨l, h1, _, _, h4, h5⟩ := rebuildAll_spec cfg s.pol h.g.sized h.g2.sized
  have hf : freshLinks cfg s = l := by simp [freshLinks, h1]
  rw [hf]
  obtain ⟨a1, a2, a3, a4, a5, a6, a7⟩ := answers_congr { s with links := l } s rfl
    (fun x => (h.g.same x).trans (h4 x).symm) fun x => (h.g2.same x).trans (h5 x).symm
  exact ⟨a1, a2, a3, a4, a5, a6, a7 sh⟩

theorem removed_not_stored (cfg : Cfg) (s : St) (h : Coherent cfg s) (sec : Sec) (r : Rule) :
    r ∉ (step cfg s (.remove sec r)).1.pol.get sec := by
  have hres := remove_result (s.pol.get sec) r (h.nodup sec)
  have hmem := remove_mem (s.pol.get sec) r r (h.nodup sec)
  simp only [step, finish_persist]
  cases hrem : Policy.remove (s.pol.get sec) r with
  | mk l ok =>
    rw [hrem] at hres hmem
    cases ok with
    | false => simpa using hres.symm
    | true =>
      simp only [Bool.not_true, Bool.false_eq_true, ↓reduceIte, commit_pol, Pol.get_set_same]
      simpa using hmem

/-- revocation takes effect: after the removal of a role assignment its link is gone - unless another assignment
    that is still stored has the very same link (rules that differ only beyond the role definition, F28) -/
theorem revocation_effective (cfg : Cfg) (s : St) (h : Coherent cfg s) (sec : Sec) (hsec : sec ≠ .p) (r : Rule) :
    r.take (cfg.count sec) ∈ (step cfg s (.remove sec r)).1.links.get sec →
      ∃ o ∈ (step cfg s (.remove sec r)).1.pol.get sec, o ≠ r ∧ o.take (cfg.count sec) = r.take (cfg.count sec) := by
  intro hin
  have hc := (coherent_step cfg s (.remove sec r) h trivial).sec sec hsec
  obtain ⟨o, ho, he⟩ := (hc.same _).mp hin
  exact ⟨o, ho, fun e => removed_not_stored cfg s h sec r (e ▸ ho), he⟩

/-- when rules have exactly the role definition's size the link of a removed assignment is gone -/
theorem revocation_effective_exact (cfg : Cfg) (s : St) (h : Coherent cfg s) (sec : Sec) (hsec : sec ≠ .p) (r : Rule)
    (hex : ∀ o ∈ (step cfg s (.remove sec r)).1.pol.get sec, o.length = cfg.count sec) (hr : r.length = cfg.count sec) :
    r ∉ (step cfg s (.remove sec r)).1.links.get sec := by
  intro hin
  have hr' : r.take (cfg.count sec) = r := by rw [← hr, List.take_length]
  obtain ⟨o, ho, hne, he⟩ := revocation_effective cfg s h sec hsec r (by rw [hr']; exact hin)
  rw [hr', ← hex o ho, List.take_length] at he
  exact hne he

/-- a call that reports failure or "already present" leaves links (and everything else) untouched -/
theorem rejected_call_no_link (cfg : Cfg) (s : St) (sec : Sec) (r : Rule) (rs : List Rule) :
    ((step cfg s (.add sec r)).2 = .ok (.bool false) → (step cfg s (.add sec r)).1 = s) ∧
    ((step cfg s (.addMany sec rs)).2 = .ok (.bool false) → (step cfg s (.addMany sec rs)).1 = s) := by
  exact ⟨fun hr => unchanged_of_unsuccessful cfg s _ rfl _ hr rfl,
    fun hr => unchanged_of_unsuccessful cfg s _ rfl _ hr rfl⟩

/-- F27: a grouping rule with fewer fields than its role definition is refused before anything is stored, persisted,
    linked or notified -/
theorem short_add_refused (cfg : Cfg) (s : St) (sec : Sec) (r : Rule) (hs : shortFor cfg sec [r] = true) :
    (step cfg s (.add sec r)).1 = s := by
  refine step_of_commits (P := (· = s)) cfg s _ rfl rfl fun ch hc => ?_
  cases hc with | add _ hns => rw [hs] at hns; cases hns

/-- F27: one short rule refuses the batch, whatever else it contains -/
theorem short_addMany_refused (cfg : Cfg) (s : St) (sec : Sec) (rs : List Rule) (hs : shortFor cfg sec rs = true) :
    (step cfg s (.addMany sec rs)).1 = s := by
  refine step_of_commits (P := (· = s)) cfg s _ rfl rfl fun ch hc => ?_
  cases hc with | addMany _ hns => rw [hs] at hns; cases hns

example : (step { gCount := 2 } { pol := { g := [["alice", "admin"]] }, links := { g := [["alice", "admin"]] } }
    (.addMany .g [["bob", "admin"], ["carol"]])) =
    ({ pol := { g := [["alice", "admin"]] }, links := { g := [["alice", "admin"]] } }, .error .shortGroupingRule) := by decide

/-- F28: rules that differ only beyond the role definition share one link; removing one of them keeps the link as
    long as another is still stored -/
theorem shared_link_survives (count : Nat) (pol store : List Rule) (r : Rule) (hr : count ≤ r.length)
    (hshare : ∃ o ∈ pol, o.take count = r.take count) : incLinks count false pol store [r] = .ok store := by
  obtain ⟨o, ho, he⟩ := hshare
  have hlt : ¬ r.length < count := by omega
  have hany : pol.any (fun o => o.take count == r.take count) = true :=
    List.any_eq_true.mpr ⟨o, ho, by simpa using he⟩
  simp [incLinks, hlt, hany]

/-- the shared link goes with the last of them: two over-long rules, removed one after the other -/
example :
    let s0 : St := { pol := { g := [["alice", "admin", "x"], ["alice", "admin", "y"]] }, links := { g := [["alice", "admin"]] } }
    let s1 := (step { gCount := 2 } s0 (.remove .g ["alice", "admin", "x"])).1
    let s2 := (step { gCount := 2 } s1 (.remove .g ["alice", "admin", "y"])).1
    s1.links.g = [["alice", "admin"]] ∧ s1.pol.g = [["alice", "admin", "y"]] ∧ s2.links.g = [] ∧ s2.pol.g = [] := by decide

example : PolOK { gCount := 2 } { p := [["admin", "data1", "read"]], g := [["alice", "admin"], ["bob", "admin"]] } :=
  ⟨by decide, by decide, by decide, by intro r hr; simp at hr; rcases hr with rfl | rfl <;> exact Nat.le_refl _, by intro r hr; simp at hr⟩

example : RunOK { gCount := 2 } {} [.add .g ["alice", "admin"], .add .g ["alice", "admin"],
    .addMany .g [["alice", "admin"], ["bob", "admin"]], .remove .g ["alice", "admin"], .clearPolicy] := by
  simp [RunOK, OpOK]

/-- over-long and short grouping rules are inside the theorem: the state reached by this history - two rules that differ
    only beyond the role definition, a too short one (refused), one of the two removed - is coherent, and the shared
    link is still there -/
example :
    let ops : List Op := [.addMany .g [["alice", "admin", "x"], ["alice", "admin", "y"]], .add .g ["bob"],
      .remove .g ["alice", "admin", "x"]]
    Coherent { gCount := 2 } (run { gCount := 2 } {} ops) ∧
    (run { gCount := 2 } {} ops).links.g = [["alice", "admin"]] ∧
    (run { gCount := 2 } {} ops).pol.g = [["alice", "admin", "y"]] := by
  refine ⟨coherent_run _ _ _ ?_ (by simp [RunOK, OpOK]), by decide, by decide⟩
  exact ⟨.nil _, .nil _, List.nodup_nil, rfl⟩

end Casbin.Enf.C04
