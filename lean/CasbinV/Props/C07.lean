import CasbinV.Props.C06
/-!
# C07 — priority models keep rules in priority order and the best-priority match decides

Domain: priorities are decimal integers - ASCII digits with an optional leading `-` (where `int` and `Int` agree); see DESIGN C07.
-/
namespace Casbin.Policy.C07
open Casbin.Policy.C06

def AllNumeric (pi : Nat) (l : List Rule) : Prop := ∀ r ∈ l, ∃ p, prioOf pi r = some p

/-- numeric key with a default for the (excluded) non-numeric case: the theorems that assume `Sorted` without
    `AllNumeric` (`remove_keeps_sorted`, `first_match_is_best`) read a rule without a numeric priority as priority 0 -/
def key (pi : Nat) (r : Rule) : Int := (prioOf pi r).getD 0

def Sorted (pi : Nat) (l : List Rule) : Prop := l.Pairwise (fun a b => key pi a ≤ key pi b)

theorem key_of_some {pi : Nat} {r : Rule} {p : Int} (h : prioOf pi r = some p) : key pi r = p := by
  simp [key, h]

/-! ## single add: the bubble loop -/

theorem insertByPriority_eq_insertAfter {pi : Nat} {l : List Rule} {r : Rule} {p : Int} (hp : prioOf pi r = some p)
    (hn : AllNumeric pi l) :
    insertByPriority pi l r = (insertAfter (fun x => decide (key pi x > p)) r l.reverse).reverse := by
  simp only [insertByPriority, hp, bubbleRev_eq_insertAfter]
  congr 1
  refine insertAfter_congr r fun x hx => ?_
  obtain ⟨q, hq⟩ := hn x (List.mem_reverse.mp hx)
  simp [key, hq]

/-- C07: adding a rule to a sorted policy puts it after every rule of smaller or equal priority and before every rule
    of greater priority; all other rules keep their relative order -/
theorem insertByPriority_eq (pi : Nat) (l : List Rule) (r : Rule) (p : Int) (hp : prioOf pi r = some p)
    (hn : AllNumeric pi l) (hs : Sorted pi l) :
    insertByPriority pi l r =
      l.filter (fun x => decide (key pi x ≤ p)) ++ r :: l.filter (fun x => decide (key pi x > p)) := by
  rw [insertByPriority_eq_insertAfter hp hn,
    insertAfter_eq_filter r ((List.pairwise_reverse.mpr hs).imp fun hab hb => by simp at hb ⊢; omega)]
  simp [List.filter_reverse, ← decide_not, Int.not_lt]

theorem add_keeps_sorted (pi : Nat) (l : List Rule) (r : Rule) (p : Int) (hp : prioOf pi r = some p)
    (hn : AllNumeric pi l) (hs : Sorted pi l) : Sorted pi (add (some pi) l r).1 := by
  unfold add
  split
  · exact hs
  · simp only [insertByPriority_eq_insertAfter hp hn]
    have hk := key_of_some hp
    -- descending on the reversed list: the rules that are passed are greater, the one that stops the loop is not
    exact List.pairwise_reverse.mpr (insertAfter_pairwise (R := fun a b => key pi b ≤ key pi a)
      (fun h1 h2 => Int.le_trans h2 h1) (List.pairwise_reverse.mpr hs)
      (fun x _ h => by simp at h; omega) (fun x _ h => by simp at h; omega))

theorem add_keeps_numeric (pi : Nat) (l : List Rule) (r : Rule) (p : Int) (hp : prioOf pi r = some p)
    (hn : AllNumeric pi l) : AllNumeric pi (add (some pi) l r).1 := by
  intro x hx
  rcases (add_mem (some pi) l r x).mp hx with h | rfl
  · exact hn x h
  · exact ⟨p, hp⟩

/-- `add_policies` inserts rule by rule (F07) -/
theorem addMany_keeps_sorted (pi : Nat) (l rs : List Rule) (hr : AllNumeric pi rs)
    (hn : AllNumeric pi l) (hs : Sorted pi l) :
    Sorted pi (addMany (some pi) l rs).1 ∧ AllNumeric pi (addMany (some pi) l rs).1 := by
  rw [addMany_eq]
  split
  · exact ⟨hs, hn⟩
  · exact List.foldlRecOn (motive := fun acc => Sorted pi acc ∧ AllNumeric pi acc) rs _ ⟨hs, hn⟩ fun acc h r hmem => by
      obtain ⟨p, hp⟩ := hr r hmem
      exact ⟨add_keeps_sorted pi acc r p hp h.2 h.1, add_keeps_numeric pi acc r p hp h.2⟩

theorem remove_keeps_sorted (pi : Nat) (l : List Rule) (r : Rule) (hs : Sorted pi l) :
    Sorted pi (remove l r).1 := hs.sublist (remove_sublist l r)

theorem removeMany_keeps_sorted (pi : Nat) (l rs : List Rule) (hs : Sorted pi l) :
    Sorted pi (removeMany l rs).1 := hs.sublist (removeMany_sublist l rs)

/-- replacing a rule by one of the same priority keeps the order; `update_policy` raises unless the two priority
    fields are the same string (`C06.update_priority_guard`), which puts its `List.set` in this case -/
theorem set_keeps_sorted (pi : Nat) (l : List Rule) (i : Nat) (new : Rule) (hi : i < l.length)
    (hk : key pi new = key pi l[i]) (hs : Sorted pi l) : Sorted pi (l.set i new) := by
  -- the list of keys does not change
  have : (l.set i new).map (key pi) = l.map (key pi) := by
    rw [List.map_set, hk, ← List.getElem_map (key pi) (h := by simpa using hi), List.set_getElem_self]
  unfold Sorted at *
  rwa [← List.pairwise_map (R := (· ≤ ·)), this, List.pairwise_map]

/-! ## load: Python's stable sort -/

/-- the load's insertion walks past the rules of smaller or equal priority (and past anything not numeric) -/
theorem insertSorted_eq_insertAfter (pi : Nat) (r : Rule) (l : List Rule) :
    insertSorted pi r l = insertAfter (fun x => (prioOf pi r).all fun pr => (prioOf pi x).all (· ≤ pr)) r l := by
  induction l with
  | nil => rfl
  | cons x xs ih =>
    simp only [insertSorted, insertAfter, ← ih]
    cases prioOf pi r <;> cases prioOf pi x <;> simp

theorem insertSorted_perm (pi : Nat) (r : Rule) (l : List Rule) : (insertSorted pi r l).Perm (r :: l) := by
  rw [insertSorted_eq_insertAfter]; exact insertAfter_perm _ r l

theorem sortByPriority_eq (pi : Nat) (l : List Rule) (hn : AllNumeric pi l) :
    sortByPriority pi l = l.foldl (fun acc r => insertAfter (fun x => decide (key pi x ≤ key pi r)) r acc) [] := by
  unfold sortByPriority
  simp only [insertSorted_eq_insertAfter]
  refine foldl_insertAfter_congr l [] fun r hr x hx => ?_
  obtain ⟨pr, hpr⟩ := hn r hr
  obtain ⟨px, hpx⟩ := hn x (by simpa using hx)
  simp [key, hpr, hpx]

/-- the load is Python's `sorted` by the numeric key: ascending, the same rules, and stable - every class of rules whose
    keys are pairwise ≤ (in particular: equal) keeps its arrival order -/
theorem sortByPriority_spec (pi : Nat) (l : List Rule) (hn : AllNumeric pi l) :
    Sorted pi (sortByPriority pi l) ∧ (sortByPriority pi l).Perm l ∧
    ∀ f : Rule → Bool, (∀ x y, f x = true → f y = true → key pi x ≤ key pi y) →
      (sortByPriority pi l).filter f = l.filter f := by
  rw [sortByPriority_eq pi l hn]
  obtain ⟨h1, h2, h3⟩ := foldl_insertAfter_spec (fun x r => decide (key pi x ≤ key pi r))
    (fun a b h => by simp at h ⊢; omega) (fun a b c h1 h2 => by simp at h1 h2 ⊢; omega) l [] .nil
  exact ⟨h1.imp of_decide_eq_true, h2, fun f hf => h3 f fun x y hx hy => decide_eq_true (hf x y hx hy)⟩

theorem load_sorted (pi : Nat) (l : List Rule) (hn : AllNumeric pi l) :
    Sorted pi (sortByPriority pi l) ∧ (sortByPriority pi l).Perm l :=
  ⟨(sortByPriority_spec pi l hn).1, (sortByPriority_spec pi l hn).2.1⟩

/-- `sortByPriority_spec` for the class of one priority: rules of equal priority stay in arrival order -/
theorem load_stable (pi : Nat) (l : List Rule) (hn : AllNumeric pi l) (q : Int) :
    (sortByPriority pi l).filter (fun x => key pi x == q) = l.filter (fun x => key pi x == q) :=
  (sortByPriority_spec pi l hn).2.2 _ fun x y hx hy => by simp at hx hy; omega

/-! ## the best-priority match decides -/

/-- in a sorted policy the first rule satisfying any predicate (e.g. "matches with a definite effect") has the
    smallest priority among all rules satisfying it; with `C01.enforce_eq_spec` (priority effect = effect of the
    first decisive match) this is "the best-priority match decides" -/
theorem first_match_is_best (pi : Nat) (l : List Rule) (hs : Sorted pi l) (f : Rule → Bool) (r : Rule)
    (hf : l.find? f = some r) : ∀ x ∈ l, f x = true → key pi r ≤ key pi x := by
  -- `r` stands behind rules that do not satisfy `f` and before everything else
  obtain ⟨-, as, bs, rfl, has⟩ := List.find?_eq_some_iff_append.mp hf
  intro x hx hfx
  rcases List.mem_append.mp hx with hx | hx
  · simpa [hfx] using has x hx
  · rcases List.mem_cons.mp hx with rfl | hx
    · exact Int.le_refl _
    · exact (List.pairwise_cons.mp (List.pairwise_append.mp hs).2.1).1 x hx

/-! ## every history of adds and removes keeps the order -/

inductive Op
  | add (r : Rule)
  | addMany (rs : List Rule)
  | remove (r : Rule)
  | removeMany (rs : List Rule)

def step (pi : Nat) (l : List Rule) : Op → List Rule
  | .add r => (add (some pi) l r).1
  | .addMany rs => (addMany (some pi) l rs).1
  | .remove r => (remove l r).1
  | .removeMany rs => (removeMany l rs).1

def Op.Numeric (pi : Nat) : Op → Prop
  | .add r => ∃ p, prioOf pi r = some p
  | .addMany rs => AllNumeric pi rs
  | _ => True

theorem step_keeps (pi : Nat) (l : List Rule) (op : Op) (hop : op.Numeric pi) (hn : AllNumeric pi l)
    (hs : Sorted pi l) : AllNumeric pi (step pi l op) ∧ Sorted pi (step pi l op) := by
  cases op with
  | add r => obtain ⟨p, hp⟩ := hop; exact ⟨add_keeps_numeric pi l r p hp hn, add_keeps_sorted pi l r p hp hn hs⟩
  | addMany rs => exact (addMany_keeps_sorted pi l rs hop hn hs).symm
  | remove r => exact ⟨fun y hy => hn y ((remove_sublist l r).subset hy), remove_keeps_sorted pi l r hs⟩
  | removeMany rs => exact ⟨fun y hy => hn y ((removeMany_sublist l rs).subset hy), removeMany_keeps_sorted pi l rs hs⟩

/-- C07: starting from a loaded (sorted) policy, every sequence of single and batch adds and removes with numeric
    priorities leaves the rules in ascending numeric priority -/
theorem sorted_invariant (pi : Nat) (ops : List Op) (l : List Rule) (hops : ∀ op ∈ ops, op.Numeric pi)
    (hn : AllNumeric pi l) (hs : Sorted pi l) : Sorted pi (ops.foldl (step pi) l) :=
  (List.foldlRecOn (motive := fun l => AllNumeric pi l ∧ Sorted pi l) ops (step pi) ⟨hn, hs⟩
    fun acc h op hop => step_keeps pi acc op (hops op hop) h.1 h.2).2

-- negative priorities are numeric priorities: `int` reads them, and the load sorts on `int` like the ordered insertion
example : prioOfString "-10" = some (-10) := by decide +kernel
example : prioOfString "-" = none ∧ prioOfString "" = none ∧ prioOfString "--1" = none ∧ prioOfString "1-" = none := by decide +kernel
example : sortByPriority 0 [["10", "a"], ["-1", "b"], ["1", "c"], ["-10", "d"]] =
    [["-10", "d"], ["-1", "b"], ["1", "c"], ["10", "a"]] := by decide +kernel
example : (add (some 0) [["-10", "d"], ["1", "c"]] ["-1", "b"]).1 = [["-10", "d"], ["-1", "b"], ["1", "c"]] := by decide +kernel
example : prioOf 0 ["10", "alice"] = some 10 := by decide +kernel
example : sortByPriority 0 [["10", "a"], ["1", "b"], ["10", "c"], ["2", "d"]] =
    [["1", "b"], ["2", "d"], ["10", "a"], ["10", "c"]] := by decide +kernel
example : (add (some 0) [["1", "b"], ["10", "a"]] ["2", "z"]).1 = [["1", "b"], ["2", "z"], ["10", "a"]] := by decide +kernel
example : (addMany (some 0) [["1", "b"], ["10", "a"]] [["20", "y"], ["2", "z"]]).1 =
    [["1", "b"], ["2", "z"], ["10", "a"], ["20", "y"]] := by decide +kernel

end Casbin.Policy.C07
