import CasbinV.Model.Synced
import CasbinV.Gen.SyncedTable
/-!
# C17 — SyncedEnforcer calls are atomic and equivalent to the plain enforcer

Two halves.

* **The table** (`Gen.syncedTable`, regenerated from `casbin/synced_enforcer.py` by T2): every public method takes a
  lock at least as strong as the classification of its callee demands (`table_discipline`), forwards every parameter
  once and in order to the method of the same name and returns its value (`table_forwarding`), and `__init__` binds
  the read/write handles of ONE `RWLockWrite` around ONE `Enforcer` (`table_init`). All by `decide` over the
  regenerated table, so a wrong lock mode, a swapped argument, a different callee or a dropped `return` in the source
  breaks the build of this file.
* **The protocol** (generic in the sequential object): behind a readers-writer lock that admits a writer only alone and
  a reader only without a writer — what C16 proves about `RWLockWrite` — every concurrent execution is equivalent to
  the sequential run of the same calls in commit order (`linearizable`), every call sees the current state
  (`snapshot_fresh`), and commit order respects real time (`respects_real_time`), provided calls under the read lock
  do not change the state and unlocked calls do not depend on it. `api_linearizable` instantiates the lock modes
  with the ones of the generated table and derives these provisos from the classification.
-/
namespace Casbin.C17
open Casbin.Synced

theorem table_init : initOk Gen.syncedInit = true := by decide +kernel

/-- one evaluation of the table for both checks (the kernel spends most of its time on the rows' strings, whichever
    check it runs) -/
theorem table_ok : ∀ r ∈ Gen.syncedTable, disciplineOk r = true ∧ forwardingOk r = true := by decide +kernel

theorem table_discipline : ∀ r ∈ Gen.syncedTable, disciplineOk r = true := fun r h => (table_ok r h).1

theorem table_forwarding : ∀ r ∈ Gen.syncedTable, forwardingOk r = true := fun r h => (table_ok r h).2

/-- every mutating callee is wrapped under the write lock; every reading callee under some lock -/
theorem mutators_write_locked (r : Row) (h : r ∈ Gen.syncedTable) (mode : LockMode) (callee : String) (args : List Arg)
    (ret : Bool) (hs : r.shape = .wrap mode callee args ret) :
    (classify callee = .mutates → mode = .write) ∧ (classify callee = .reads → mode ≠ .none) := by
  have hd := table_discipline r h
  simp only [disciplineOk, hs] at hd
  constructor
  · intro hc; rw [hc] at hd; simpa using hd
  · intro hc; rw [hc] at hd; simpa using hd

example : (Gen.syncedTable.filter fun r => r.mode == .write).length ≥ 40 := by decide +kernel
example : (Gen.syncedTable.filter fun r => r.mode == .read).length ≥ 40 := by decide +kernel
def witnessRows : List Row := [
  { name := "build_role_links", isPrivate := false, params := [],
    shape := .wrap .read "build_role_links" [] true },
  { name := "set_field_index", isPrivate := false, params := [.pos "ptype", .pos "field", .pos "index"],
    shape := .other "assertion = self._e.model['p'][ptype]; assertion.field_index_map[field] = index" ["_e.model"] },
  { name := "build_incremental_role_links", isPrivate := false, params := [.pos "op", .pos "ptype", .pos "rules"],
    shape := .other "self.get_model().build_incremental_role_links(self.get_role_manager(), op, 'g', ptype, rules)" ["get_role_manager", "get_model"] },
  { name := "add_policy", isPrivate := false, params := [.star "params"],
    shape := .wrap .none "add_policy" [.star "params"] true },
  { name := "is_filtered", isPrivate := false, params := [],
    shape := .wrap .read "is_filtered" [] false },
  { name := "add_role_for_user", isPrivate := false, params := [.pos "user", .pos "role"],
    shape := .wrap .write "add_role_for_user" [.pos "role", .pos "user"] true },
  { name := "add_policy", isPrivate := false, params := [.star "params"],
    shape := .wrap .write "remove_policy" [.star "params"] true }]

/-- the checks reject the F12 defects (`build_role_links` under the read lock, two unlocked mutators, `is_filtered`
    dropping the return value) and three mutants (no lock, swapped arguments, another callee) -/
theorem witnesses_rejected :
    witnessRows.map (fun r => (disciplineOk r, forwardingOk r)) =
      [(false, true), (false, true), (false, true), (false, true), (true, false), (true, false), (true, false)] := by
  decide +kernel

variable {σ Op Ret : Type}

theorem upd_cases {α : Type} {f : Nat → α} {t u : Nat} {v x : α} (h : upd f t v u = x) :
    (u = t ∧ v = x) ∨ (u ≠ t ∧ f u = x) := by
  unfold upd at h
  split at h
  · exact .inl ⟨‹_›, h⟩
  · exact .inr ⟨‹_›, h⟩

theorem seqRun_append (apply : Op → σ → σ × Ret) (x : σ) (os : List Op) (o : Op) :
    seqRun apply x (os ++ [o]) =
      ((apply o (seqRun apply x os).1).1, (seqRun apply x os).2 ++ [(apply o (seqRun apply x os).1).2]) := by
  induction os generalizing x with
  | nil => simp [seqRun]
  | cons a as ih => simp [seqRun, ih]

/-- calls under the read lock leave the state alone; unlocked calls neither change nor depend on it -/
structure Disciplined (O : Obj σ Op Ret) : Prop where
  readPure : ∀ o s, O.mode o = .read → (O.apply o s).1 = s
  nonePure : ∀ o s, O.mode o = .none → (O.apply o s).1 = s
  noneConst : ∀ o s s', O.mode o = .none → (O.apply o s).2 = (O.apply o s').2

structure Inv (O : Obj σ Op Ret) (x : σ) (s : St σ Op Ret) : Prop where
  /-- whoever is inside under a lock sees the current state -/
  fresh : ∀ u o sn ti, s.th u = .inside o sn ti → O.mode o ≠ .none → sn = s.cur
  /-- a writer inside is the only lock holder inside -/
  excl : ∀ u o sn ti, s.th u = .inside o sn ti → O.mode o = .write →
    ∀ v o' sn' ti', s.th v = .inside o' sn' ti' → O.mode o' ≠ .none → v = u
  /-- the commit log, replayed sequentially from the initial state, gives the current state and the logged results -/
  lin : seqRun O.apply x (s.log.map (·.op)) = (s.cur, s.log.map (·.ret))
  /-- time stamps: commits are strictly ordered, every call commits after its invocation, nothing is in the future.
      These three fields are `Clock s` (below) field by field; `clock_step` keeps them without `Disciplined`. -/
  sorted : s.log.Pairwise (fun a b => a.tCom < b.tCom)
  invBeforeCom : ∀ e ∈ s.log, e.tInv < e.tCom ∧ e.tCom < s.now
  pendingPast : ∀ u, (∀ o ti, s.th u = .waiting o ti → ti < s.now) ∧ (∀ o sn ti, s.th u = .inside o sn ti → ti < s.now)

/-- the time-stamp conjuncts of `Inv`: they hold whatever the object does and whatever the lock modes are -/
structure Clock (s : St σ Op Ret) : Prop where
  sorted : s.log.Pairwise (fun a b => a.tCom < b.tCom)
  invBeforeCom : ∀ e ∈ s.log, e.tInv < e.tCom ∧ e.tCom < s.now
  pendingPast : ∀ u, (∀ o ti, s.th u = .waiting o ti → ti < s.now) ∧ (∀ o sn ti, s.th u = .inside o sn ti → ti < s.now)

/-- every step ticks the clock, stamps an invocation with the time before the tick, lets a call inside keep its
    stamp, and appends to the log, at a commit, an entry committed at the time before the tick -/
theorem clock_step {O : Obj σ Op Ret} {s t : St σ Op Ret} (h : Clock s) (st : Step O s t) : Clock t := by
  obtain ⟨hs, hic, hp⟩ := h
  have hic' : ∀ e ∈ s.log, e.tInv < e.tCom ∧ e.tCom < s.now + 1 := fun e he =>
    ⟨(hic e he).1, Nat.lt_succ_of_lt (hic e he).2⟩
  -- the thread that moves gets the status `y`; the others keep theirs
  have hp' : ∀ (t : Nat) (y : Th σ Op), (∀ o ti, y = .waiting o ti → ti ≤ s.now) → (∀ o sn ti, y = .inside o sn ti → ti < s.now) →
      ∀ u, (∀ o ti, upd s.th t y u = .waiting o ti → ti < s.now + 1) ∧
        (∀ o sn ti, upd s.th t y u = .inside o sn ti → ti < s.now + 1) := by
    intro t y h1 h2 u
    unfold upd
    split
    · exact ⟨fun o ti h => Nat.lt_succ_of_le (h1 o ti h), fun o sn ti h => Nat.lt_succ_of_lt (h2 o sn ti h)⟩
    · exact ⟨fun o ti h => Nat.lt_succ_of_lt ((hp u).1 o ti h), fun o sn ti h => Nat.lt_succ_of_lt ((hp u).2 o sn ti h)⟩
  cases st with
  | invoke t o => exact ⟨hs, hic', hp' t _ (fun _ _ h => by cases h; exact Nat.le_refl _) nofun⟩
  | beginR t o ti hwait | beginW t o ti hwait | beginN t o ti hwait =>
    exact ⟨hs, hic', hp' t _ nofun (fun _ _ _ h => by cases h; exact (hp t).1 _ _ hwait)⟩
  | commit t o sn ti hin | commitN t o sn ti hin =>
    refine ⟨List.pairwise_append.mpr ⟨hs, by simp, fun a ha b hb => ?_⟩, fun e he => ?_, hp' t _ nofun nofun⟩
    · rw [List.mem_singleton.mp hb]; exact (hic a ha).2
    · rcases List.mem_append.mp he with h | h
      · exact hic' e h
      · rw [List.mem_singleton.mp h]; exact ⟨(hp t).2 _ _ _ hin, Nat.lt_succ_self _⟩

theorem clock_reach {O : Obj σ Op Ret} {x : σ} {s : St σ Op Ret} (r : Reach O x s) : Clock s := by
  induction r with
  | init => exact ⟨.nil, nofun, fun _ => ⟨nofun, nofun⟩⟩
  | step _ st ih => exact clock_step ih st

theorem inv_init (O : Obj σ Op Ret) (x : σ) : Inv O x (St.init x) := by
  refine ⟨?_, ?_, ?_, ?_, ?_, ?_⟩ <;> simp [St.init, seqRun]

theorem inv_step (O : Obj σ Op Ret) (x : σ) (hd : Disciplined O) {s t : St σ Op Ret}
    (h : Inv O x s) (st : Step O s t) : Inv O x t := by
  obtain ⟨hf, he, hl, hs, hic, hp⟩ := h
  obtain ⟨hs', hic', hp'⟩ := clock_step ⟨hs, hic, hp⟩ st
  -- the time stamps are done with: cleared, so that the `cases st` below do not carry them along
  refine ⟨?_, ?_, ?_, hs', hic', hp'⟩ <;> clear hs' hic' hp' hs hic hp
  -- `fresh`
  · intro u o' sn' ti' hu hm'
    cases st with
    | invoke t o | commitN t o sn ti hin hm =>
      obtain ⟨-, h⟩ | ⟨-, h⟩ := upd_cases hu
      · cases h
      · exact hf _ _ _ _ h hm'
    | beginR t o ti | beginW t o ti | beginN t o ti =>
      obtain ⟨-, h⟩ | ⟨-, h⟩ := upd_cases hu
      · cases h; rfl
      · exact hf _ _ _ _ h hm'
    | commit t o sn ti hin hm =>
      -- the state changes: a reader's commit leaves it alone (`readPure`), a writer is inside alone (`excl`)
      obtain ⟨-, h⟩ | ⟨hne, h⟩ := upd_cases hu
      · cases h
      · rw [hf _ _ _ _ h hm', ← hf _ _ _ _ hin hm]
        cases hmo : O.mode o with
        | none => exact absurd hmo hm
        | read => exact (hd.readPure o _ hmo).symm
        | write => exact absurd (he _ _ _ _ hin hmo _ _ _ _ h hm') hne
  -- `excl`
  · intro u o' sn' ti' hu hw v o'' sn'' ti'' hv hv'
    cases st with
    | invoke t o | commit t o sn ti | commitN t o sn ti =>
      obtain ⟨-, hu⟩ | ⟨-, hu⟩ := upd_cases hu
      · cases hu
      · obtain ⟨-, hv⟩ | ⟨-, hv⟩ := upd_cases hv
        · cases hv
        · exact he _ _ _ _ hu hw _ _ _ _ hv hv'
    | beginR t o ti _ hm hnw =>
      obtain ⟨-, hu⟩ | ⟨-, hu⟩ := upd_cases hu
      · cases hu; rw [hm] at hw; cases hw
      · exact absurd ⟨u, o', sn', ti', hu, hw⟩ hnw
    | beginW t o ti _ hm hni =>
      obtain ⟨eu, hu⟩ | ⟨-, hu⟩ := upd_cases hu
      · obtain ⟨ev, hv⟩ | ⟨-, hv⟩ := upd_cases hv
        · rw [eu, ev]
        · exact absurd ⟨v, o'', sn'', ti'', hv, hv'⟩ hni
      · exact absurd ⟨u, o', sn', ti', hu, hw ▸ nofun⟩ hni
    | beginN t o ti _ hm =>
      obtain ⟨-, hu⟩ | ⟨-, hu⟩ := upd_cases hu
      · cases hu; rw [hm] at hw; cases hw
      · obtain ⟨-, hv⟩ | ⟨-, hv⟩ := upd_cases hv
        · cases hv; exact absurd hm hv'
        · exact he _ _ _ _ hu hw _ _ _ _ hv hv'
  -- `lin`: a commit applies the call to the current state (`fresh`; an unlocked call does not look at it)
  · cases st with
    | commit t o sn ti hin hm => rw [hf _ _ _ _ hin hm]; simp [seqRun_append, hl]
    | commitN t o sn ti hin hm => simp [seqRun_append, hl, hd.nonePure o _ hm, hd.noneConst o sn s.cur hm]
    | _ => exact hl

theorem inv_reach (O : Obj σ Op Ret) (x : σ) (hd : Disciplined O) {s : St σ Op Ret} (r : Reach O x s) : Inv O x s := by
  induction r with
  | init => exact inv_init O x
  | step _ st ih => exact inv_step O x hd ih st

/-- atomicity: a call running under a lock sees the current state for as long as it is inside -/
theorem snapshot_fresh (O : Obj σ Op Ret) (x : σ) (hd : Disciplined O) {s : St σ Op Ret} (r : Reach O x s)
    {u : Nat} {o : Op} {sn : σ} {ti : Nat} (h : s.th u = .inside o sn ti) (hm : O.mode o ≠ .none) : sn = s.cur :=
  (inv_reach O x hd r).fresh u o sn ti h hm

theorem writer_alone (O : Obj σ Op Ret) (x : σ) (hd : Disciplined O) {s : St σ Op Ret} (r : Reach O x s)
    {u v : Nat} {o o' : Op} {sn sn' : σ} {ti ti' : Nat} (h : s.th u = .inside o sn ti) (hw : O.mode o = .write)
    (h' : s.th v = .inside o' sn' ti') (hm : O.mode o' ≠ .none) : v = u :=
  (inv_reach O x hd r).excl u o sn ti h hw v o' sn' ti' h' hm

/-- every concurrent execution is equivalent to the one-at-a-time run of the same calls in commit order: each call
    returned what it returns at its place in that order and the final state is the one that order produces -/
theorem linearizable (O : Obj σ Op Ret) (x : σ) (hd : Disciplined O) {s : St σ Op Ret} (r : Reach O x s) :
    seqRun O.apply x (s.log.map (·.op)) = (s.cur, s.log.map (·.ret)) :=
  (inv_reach O x hd r).lin

theorem Clock.real_time {s : St σ Op Ret} (h : Clock s) (i j : Nat) (hi : i < s.log.length) (hj : j < s.log.length)
    (hlt : s.log[i].tCom < s.log[j].tInv) : i < j := by
  have hsorted := List.pairwise_iff_getElem.mp h.sorted
  have hj' := (h.invBeforeCom s.log[j] (List.getElem_mem hj)).1
  rcases Nat.lt_trichotomy i j with hlt | heq | hgt
  · exact hlt
  · subst heq; omega
  · have := hsorted j i hj hi hgt; omega

/-- the commit order respects real time: a call that committed (hence: that returned) before another one was invoked
    precedes it in the order. By the time stamps alone (`Clock.real_time`): `hd` is not used. -/
theorem respects_real_time (O : Obj σ Op Ret) (x : σ) (hd : Disciplined O) {s : St σ Op Ret} (r : Reach O x s)
    (i j : Nat) (hi : i < s.log.length) (hj : j < s.log.length) (h : s.log[i].tCom < s.log[j].tInv) : i < j :=
  (clock_reach r).real_time i j hi hj h

inductive CntOp | get | incr deriving DecidableEq
def cntObj : Obj Nat CntOp Nat :=
  { apply := fun o s => match o with | .get => (s, s) | .incr => (s + 1, s), mode := fun o => match o with | .get => .read | .incr => .write }

theorem cntObj_disciplined : Disciplined cntObj := by
  constructor
  · intro o s h; cases o <;> simp_all [cntObj]
  · intro o s h; cases o <;> simp_all [cntObj]
  · intro o s s' h; cases o <;> simp_all [cntObj]

example : ∃ s, Reach cntObj 5 s ∧ s.log.length = 1 ∧ s.cur = 6 := by
  refine ⟨_, .step (.step (.step .init (.invoke _ 0 .incr rfl)) (.beginW _ 0 .incr 0 (by simp [upd, St.init]) rfl ?_))
    (.commit _ 0 .incr 5 0 (by simp [upd, St.init]) (by simp [cntObj])), by simp [St.init], by simp [cntObj]⟩
  rintro ⟨u, o, sn, ti, h, _⟩
  simp only [upd, St.init] at h
  split at h <;> cases h

/-- a write by thread 0, then a read by thread 1: the first commits at time 2, the second is invoked at time 3
    (hypothesis of `respects_real_time`) -/
example : ∃ s, Reach cntObj 5 s ∧ s.log.map (fun e => (e.tid, e.ret, e.tInv, e.tCom)) = [(0, 5, 0, 2), (1, 6, 3, 5)] ∧ s.cur = 6 := by
  have noW : ∀ (th : Nat → Th Nat CntOp) (cur : Nat) (log : List (Entry CntOp Nat)) (now : Nat), (∀ u, th u = .idle ∨ ∃ ti, th u = .waiting .get ti) →
      ¬ writerInside cntObj { cur := cur, th := th, log := log, now := now } := by
    intro th cur log now hth
    rintro ⟨u, o, sn, ti, h, _⟩
    simp only at h
    rcases hth u with h' | ⟨ti', h'⟩ <;> rw [h'] at h <;> cases h
  have r3 : Reach cntObj 5 _ :=
    .step (.step (.step .init (.invoke _ 0 .incr rfl)) (.beginW _ 0 .incr 0 (by simp [upd, St.init]) rfl (by
      rintro ⟨u, o, sn, ti, h, _⟩
      simp only [upd, St.init] at h
      split at h <;> cases h)))
    (.commit _ 0 .incr 5 0 (by simp [upd, St.init]) (by simp [cntObj]))
  have r4 := Reach.step r3 (.invoke _ 1 .get (by simp [upd, St.init]))
  have r5 := Reach.step r4 (.beginR _ 1 .get 3 (by simp [upd, St.init]) rfl (by
    apply noW
    intro u
    simp only [upd, St.init]
    by_cases h1 : u = 1
    · right; exact ⟨3, by simp [h1]⟩
    · left; simp [h1]; intro h0; simp [h0]))
  have r6 := Reach.step r5 (.commit _ 1 .get 6 3 (by simp [upd, cntObj]) (by simp [cntObj]))
  exact ⟨_, r6, by simp [St.init, cntObj], by simp [cntObj]⟩

/-! ## Memoising reads

Reading calls of the real enforcer are not read-only on the REPRESENTATION: `RoleManager._get_role` creates the role
object of a name it has not met, `DomainManager._get_role_manager` builds and caches the manager of a domain it has not
served, `enforce` re-derives the `g` closures into the function map. `Disciplined.readPure` is therefore stated for an
abstraction of the state: `C` is the object as implemented (state `σ`), `O` the object the answers are about (state `α`,
`abs : σ → α`), and every call of `C` does on the abstraction what `O` does and returns what `O` returns (`Memo`): a read
may change the representation, never the abstraction. The concurrent system over `C` (where two overlapping readers
each work on the representation they saw at `begin`, so the memo of one may even be LOST at the other's commit) then
simulates the concurrent system over `O` step by step, hence is linearizable against `O`, and a read never changes the
answer of any later call (`memo_read_unobservable`).

What this covers (F39: a role is created once, under the manager's own lock, and published when linked):
the cached per-domain manager, the role object of a new name when NO matching function is set (a node without links:
no query shows it), the derived `g` closures. What it does not cover: with a role matching function, the first sight of
a name makes it a node that `get_users_for_role` of its roles lists from then on — on a plain enforcer too — so that read
changes the abstraction; those executions are checked by the harness (first-sight stream) against ALL sequential orders,
not proved here. -/

/-- `C` implements `O` up to `abs`: same lock modes, same answers, same effect on the abstraction -/
structure Memo {α : Type} (C : Obj σ Op Ret) (O : Obj α Op Ret) (abs : σ → α) : Prop where
  mode : ∀ o, C.mode o = O.mode o
  state : ∀ o s, abs (C.apply o s).1 = (O.apply o (abs s)).1
  ret : ∀ o s, (C.apply o s).2 = (O.apply o (abs s)).2

def mapTh {α : Type} (abs : σ → α) : Th σ Op → Th α Op
  | .idle => .idle
  | .waiting o ti => .waiting o ti
  | .inside o sn ti => .inside o (abs sn) ti

def mapSt {α : Type} (abs : σ → α) (s : St σ Op Ret) : St α Op Ret :=
  { cur := abs s.cur, th := fun u => mapTh abs (s.th u), log := s.log, now := s.now }

theorem mapTh_upd {α : Type} (abs : σ → α) (f : Nat → Th σ Op) (t : Nat) (v : Th σ Op) :
    (fun u => mapTh abs (upd f t v u)) = upd (fun u => mapTh abs (f u)) t (mapTh abs v) := by
  funext u; simp only [upd]; split <;> rfl

theorem mapSt_upd {α : Type} (abs : σ → α) (cur : σ) (f : Nat → Th σ Op) (t : Nat) (v : Th σ Op) (log : List (Entry Op Ret)) (now : Nat) :
    mapSt abs { cur := cur, th := upd f t v, log := log, now := now } =
      { cur := abs cur, th := upd (fun u => mapTh abs (f u)) t (mapTh abs v), log := log, now := now } := by
  simp only [mapSt, mapTh_upd]

theorem mapTh_inside {α : Type} (abs : σ → α) {x : Th σ Op} {o : Op} {a : α} {ti : Nat}
    (h : mapTh abs x = .inside o a ti) : ∃ sn, x = .inside o sn ti := by
  cases x with
  | idle => cases h
  | waiting o' ti' => cases h
  | inside o' sn ti' => simp only [mapTh] at h; cases h; exact ⟨sn, rfl⟩

theorem step_sim {α : Type} (C : Obj σ Op Ret) (O : Obj α Op Ret) (abs : σ → α) (hm : Memo C O abs)
    {s t : St σ Op Ret} (st : Step C s t) : Step O (mapSt abs s) (mapSt abs t) := by
  -- whoever is inside the abstract system, under a lock mode with `P`, is inside the implemented one (for the guards
  -- `¬ writerInside`, `¬ lockedInside`)
  have back : ∀ P : LockMode → Prop, (∃ u o a ti, (mapSt abs s).th u = .inside o a ti ∧ P (O.mode o)) →
      ∃ u o sn ti, s.th u = .inside o sn ti ∧ P (C.mode o) := by
    rintro P ⟨u, o, a, ti, hu, hp⟩
    obtain ⟨sn, hsn⟩ := mapTh_inside abs hu
    exact ⟨u, o, sn, ti, hsn, hm.mode o ▸ hp⟩
  cases st with
  | invoke t o hidle => rw [mapSt_upd]; exact .invoke (mapSt abs s) t o (congrArg (mapTh abs) hidle)
  | beginR t o ti hwait hmo hnw =>
    rw [mapSt_upd]
    exact .beginR (mapSt abs s) t o ti (congrArg (mapTh abs) hwait) (hm.mode o ▸ hmo) (mt (back (· = .write)) hnw)
  | beginW t o ti hwait hmo hnl =>
    rw [mapSt_upd]
    exact .beginW (mapSt abs s) t o ti (congrArg (mapTh abs) hwait) (hm.mode o ▸ hmo) (mt (back (· ≠ .none)) hnl)
  | beginN t o ti hwait hmo =>
    rw [mapSt_upd]; exact .beginN (mapSt abs s) t o ti (congrArg (mapTh abs) hwait) (hm.mode o ▸ hmo)
  | commit t o sn ti hin hmo =>
    rw [mapSt_upd, hm.state, hm.ret]
    exact .commit (mapSt abs s) t o (abs sn) ti (congrArg (mapTh abs) hin) (hm.mode o ▸ hmo)
  | commitN t o sn ti hin hmo =>
    rw [mapSt_upd, hm.ret]
    exact .commitN (mapSt abs s) t o (abs sn) ti (congrArg (mapTh abs) hin) (hm.mode o ▸ hmo)

theorem reach_sim {α : Type} (C : Obj σ Op Ret) (O : Obj α Op Ret) (abs : σ → α) (hm : Memo C O abs) (x : σ)
    {s : St σ Op Ret} (r : Reach C x s) : Reach O (abs x) (mapSt abs s) := by
  induction r with
  | init => exact .init
  | step _ st ih => exact .step ih (step_sim C O abs hm st)

/-- reads that memoise: every concurrent execution of the object AS IMPLEMENTED returns, call by call, what the abstract
    object returns in commit order, and ends in the abstract state that order produces — although readers change the
    representation under the read lock (and may overwrite each other's memo) -/
theorem memo_linearizable {α : Type} (C : Obj σ Op Ret) (O : Obj α Op Ret) (abs : σ → α) (hm : Memo C O abs)
    (hd : Disciplined O) (x : σ) {s : St σ Op Ret} (r : Reach C x s) :
    seqRun O.apply (abs x) (s.log.map (·.op)) = (abs s.cur, s.log.map (·.ret)) :=
  linearizable O (abs x) hd (reach_sim C O abs hm x r)

/-- real time for the object as implemented; by `Clock` alone, like `respects_real_time`: neither `hm` nor `hd` is used -/
theorem memo_respects_real_time {α : Type} (C : Obj σ Op Ret) (O : Obj α Op Ret) (abs : σ → α) (hm : Memo C O abs)
    (hd : Disciplined O) (x : σ) {s : St σ Op Ret} (r : Reach C x s)
    (i j : Nat) (hi : i < s.log.length) (hj : j < s.log.length) (h : s.log[i].tCom < s.log[j].tInv) : i < j :=
  (clock_reach r).real_time i j hi hj h

/-- the sequential counterpart of `step_sim` -/
theorem Memo.seqRun_eq {α : Type} {C : Obj σ Op Ret} {O : Obj α Op Ret} {abs : σ → α} (hm : Memo C O abs)
    (os : List Op) (s : σ) :
    (seqRun C.apply s os).2 = (seqRun O.apply (abs s) os).2 ∧ abs (seqRun C.apply s os).1 = (seqRun O.apply (abs s) os).1 := by
  induction os generalizing s with
  | nil => exact ⟨rfl, rfl⟩
  | cons p ps ih =>
    have := ih (C.apply p s).1
    rw [hm.state] at this
    simp only [seqRun]
    exact ⟨by rw [hm.ret, this.1], this.2⟩

/-- observational purity of a memoising read: after it, every sequence of calls answers what it would have answered
    without it, and leaves the same abstract state -/
theorem memo_read_unobservable {α : Type} (C : Obj σ Op Ret) (O : Obj α Op Ret) (abs : σ → α) (hm : Memo C O abs)
    (hd : Disciplined O) (o : Op) (hr : C.mode o = .read) (s : σ) (os : List Op) :
    (seqRun C.apply (C.apply o s).1 os).2 = (seqRun C.apply s os).2 ∧
      abs (seqRun C.apply (C.apply o s).1 os).1 = abs (seqRun C.apply s os).1 := by
  have h1 := hm.seqRun_eq os (C.apply o s).1
  have h2 := hm.seqRun_eq os s
  -- the read has left the abstraction where it was
  rw [hm.state, hd.readPure o _ (hm.mode o ▸ hr)] at h1
  exact ⟨h1.1.trans h2.1.symm, h1.2.trans h2.2.symm⟩

/-! Example: a counter whose `get` counts how often it was asked (a representation change under the read lock); the
    abstraction forgets that statistic -/
def memoCnt : Obj (Nat × Nat) CntOp Nat :=
  { apply := fun o s => match o with | .get => ((s.1, s.2 + 1), s.1) | .incr => ((s.1 + 1, s.2), s.1),
    mode := fun o => match o with | .get => .read | .incr => .write }

theorem memoCnt_memo : Memo memoCnt cntObj Prod.fst := by
  constructor
  · intro o; cases o <;> rfl
  · intro o s; cases o <;> rfl
  · intro o s; cases o <;> rfl

/-- so `linearizable` does not apply to `memoCnt` directly -/
example : ¬ Disciplined memoCnt := by
  intro h
  have := h.readPure .get (0, 0) rfl
  simp [memoCnt] at this

/-- `memo_linearizable` does: a `get` by thread 0, committed -/
example : ∃ s, Reach memoCnt (5, 0) s ∧ s.cur = (5, 1) ∧
    seqRun cntObj.apply 5 (s.log.map (·.op)) = (5, s.log.map (·.ret)) := by
  have r : Reach memoCnt (5, 0) _ :=
    .step (.step (.step .init (.invoke _ 0 .get rfl)) (.beginR _ 0 .get 0 (by simp [upd, St.init]) rfl (by
      rintro ⟨u, o, sn, ti, h, _⟩
      simp only [upd, St.init] at h
      split at h <;> cases h)))
      (.commit _ 0 .get (5, 0) 0 (by simp [upd, St.init]) (by simp [memoCnt]))
  exact ⟨_, r, by simp [memoCnt], memo_linearizable memoCnt cntObj Prod.fst memoCnt_memo cntObj_disciplined (5, 0) r⟩

/-! ## Instantiating the lock modes with the regenerated table -/

/-- a call of the SyncedEnforcer API: a plain-forward row of the generated table plus its arguments -/
structure ApiOp (A : Type) where
  row : Row
  mem : row ∈ Gen.syncedTable
  mode : LockMode
  callee : String
  args : List Arg
  ret : Bool
  shape : row.shape = .wrap mode callee args ret
  arg : A

example : ∃ o : ApiOp Unit, o.callee = "add_policy" ∧ o.mode = .write :=
  ⟨{ row := ⟨"add_policy", false, [.star "params"], .wrap .write "add_policy" [.star "params"] true⟩, mem := by decide +kernel,
     mode := .write, callee := "add_policy", args := [.star "params"], ret := true, shape := rfl, arg := () }, rfl, rfl⟩
example : ∃ o : ApiOp Unit, o.callee = "enforce" ∧ o.mode = .read :=
  ⟨{ row := ⟨"enforce", false, [.star "rvals"], .wrap .read "enforce" [.star "rvals"] true⟩, mem := by decide +kernel,
     mode := .read, callee := "enforce", args := [.star "rvals"], ret := true, shape := rfl, arg := () }, rfl, rfl⟩

/-- the wrapped enforcer as a sequential object: `run callee a s` is what the plain enforcer's method `callee` does -/
def apiObj {A : Type} (run : String → A → σ → σ × Ret) : Obj σ (ApiOp A) Ret :=
  { apply := fun o s => run o.callee o.arg s, mode := fun o => o.mode }

/-- with the lock modes of the generated table the wrapped enforcer is a disciplined object (under the provisos of
    `api_linearizable`), so `snapshot_fresh` and `writer_alone` apply to it as well -/
theorem apiObj_disciplined {A : Type} (run : String → A → σ → σ × Ret)
    (hreads : ∀ c a s, classify c = .reads → (run c a s).1 = s)
    (hpure : ∀ c a s s', classify c = .pure → (run c a s).1 = s ∧ (run c a s).2 = (run c a s').2) :
    Disciplined (apiObj run) := by
  have hm := fun o : ApiOp A => mutators_write_locked o.row o.mem o.mode o.callee o.args o.ret o.shape
  have pure : ∀ o : ApiOp A, o.mode = .none → classify o.callee = .pure := fun o h => by
    cases hc : classify o.callee with
    | mutates => have := (hm o).1 hc; rw [h] at this; cases this
    | reads => exact absurd h ((hm o).2 hc)
    | pure => rfl
  refine ⟨fun o s hmo => ?_, fun o s hmo => (hpure _ _ s s (pure o hmo)).1, fun o s s' hmo => (hpure _ _ s s' (pure o hmo)).2⟩
  cases hc : classify o.callee with
  | mutates => have := (hm o).1 hc; rw [show o.mode = .read from hmo] at this; cases this
  | reads => exact hreads _ _ _ hc
  | pure => exact (hpure _ _ s s hc).1

/-- Provided the classification is right about the plain enforcer (reading methods do not change the abstract state,
    pure ones do not depend on it — observed at run time by the harness, not proved of the enforcer model), every
    concurrent execution of plain-forward wrappers with the lock modes OF THE GENERATED TABLE is linearizable. -/
theorem api_linearizable {A : Type} (run : String → A → σ → σ × Ret)
    (hreads : ∀ c a s, classify c = .reads → (run c a s).1 = s)
    (hpure : ∀ c a s s', classify c = .pure → (run c a s).1 = s ∧ (run c a s).2 = (run c a s').2)
    (x : σ) {s : St σ (ApiOp A) Ret} (r : Reach (apiObj run) x s) :
    seqRun (apiObj run).apply x (s.log.map (·.op)) = (s.cur, s.log.map (·.ret)) :=
  linearizable (apiObj run) x (apiObj_disciplined run hreads hpure) r

end Casbin.C17
