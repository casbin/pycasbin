import CasbinV.Proofs.LoadLines
import CasbinV.Proofs.ListFacts
import CasbinV.Proofs.EvalVector
/-!
# C10 — saving then loading a policy through the bundled adapters is lossless
-/
namespace Casbin.C10
open Casbin.Py Casbin.Persist Casbin.Persist.Spec Casbin.C12

theorem renderLine_eq_pieces (k : Str) (fs : List Str) (hne : fs ≠ []) :
    renderLine k fs = k ++ pieces (fs.map (' ' :: ·)) := by
  rw [renderLine, List.append_assoc, sep_append_join _ _ hne, pieces, List.flatMap_map]
  rfl

theorem fieldOK_iff (f : Str) : fieldOK f = true ↔ fieldScan 0 f = true ∧ strip f = f := by
  simp [fieldOK]

theorem fieldScan_pad (f : Str) (h : fieldScan 0 f = true) : fieldScan 0 (' ' :: f) = true := by
  rw [fieldScan]; simpa [isOpen, isClose] using h

/-- padded admissible fields: the scanner takes each as one token, `strip` gives the field back -/
theorem padded (fs : List Str) (hf : ∀ f ∈ fs, fieldOK f = true) :
    (fs.map (' ' :: ·)).map strip = fs ∧ ∀ w ∈ fs.map (' ' :: ·), fieldScan 0 w = true := by
  simp only [fieldOK_iff] at hf
  refine ⟨?_, by simpa using fun f hfm => fieldScan_pad f (hf f hfm).1⟩
  rw [List.map_map]
  exact (List.map_congr_left fun f hfm => (strip_cons_space f rfl).trans (hf f hfm).2).trans (List.map_id fs)

/-- C10 (string adapter: the line is tokenized as saved): for every type name and every rule with at least one field,
    all fields admissible, tokenizing the saved line gives back the type and the fields. -/
theorem line_roundtrip (k : Str) (fs : List Str) (hk : keyOK k = true) (hne : fs ≠ [])
    (hf : ∀ f ∈ fs, fieldOK f = true) :
    parseLine (renderLine k fs) = .ok (some (k, fs)) := by
  rw [renderLine_eq_pieces k fs hne, parseLine_pieces k _ hk (padded fs hf).2, (padded fs hf).1]

theorem pieces_concat (ws : List Str) (w : Str) : pieces (ws ++ [w]) = pieces ws ++ ',' :: w := by
  simp [pieces]

/-- `strip` on a type name followed by comma-led fields reaches the last field only: the line starts with the type
    name, and the last field's comma is not blank -/
theorem strip_pieces (k : Str) (ws : List Str) (w : Str) (hk : keyOK k = true) :
    strip (k ++ pieces (ws ++ [w])) = k ++ pieces (ws ++ [rstrip w]) := by
  have hl : lstrip (k ++ pieces (ws ++ [w])) = k ++ pieces (ws ++ [w]) := by
    obtain ⟨c, k, rfl, -, hp⟩ := keyOK_iff.mp hk
    simp [lstrip_cons, (hp c (by simp)).1]
  have hc : rstrip (',' :: w) = ',' :: rstrip w := rstrip_cons_nonspace (by decide)
  rw [strip, hl, pieces_concat, pieces_concat, ← List.append_assoc, ← List.append_assoc,
    rstrip_append_of_ne_nil _ _ (by simp [hc]), hc]

/-- C10, file adapters: the saved line is stripped before it is tokenized -/
theorem line_roundtrip_file (k : Str) (fs : List Str) (hk : keyOK k = true) (hne : fs ≠ [])
    (hf : ∀ f ∈ fs, fieldOK f = true) :
    parseLine (strip (renderLine k fs)) = .ok (some (k, fs)) := by
  obtain ⟨init, fl, rfl⟩ := exists_snoc fs hne
  obtain ⟨hsc, hst⟩ := (fieldOK_iff fl).mp (hf fl (by simp))
  obtain ⟨h1, h2⟩ := padded init fun f hfm => hf f (by simp [hfm])
  -- of the last field's padding `strip` leaves nothing when the field is empty, all of it otherwise
  have hw : fieldScan 0 (rstrip (' ' :: fl)) = true := by
    rw [rstrip_cons, rstrip_of_strip_eq hst]
    split
    · rfl
    · exact fieldScan_pad fl hsc
  rw [renderLine_eq_pieces _ _ (by simp), List.map_append, List.map_singleton, strip_pieces _ _ _ hk,
    parseLine_pieces k _ hk (List.forall_mem_append.mpr ⟨h2, by simpa using hw⟩), List.map_append, h1,
    List.map_singleton, strip_rstrip, strip_cons_space _ rfl, hst]

/-! ## what `save_policy` writes -/

theorem fieldScan_no_nl (f : Str) (d : Nat) (h : fieldScan d f = true) : '\n' ∉ f := by
  induction f generalizing d with
  | nil => simp
  | cons c f ih =>
    -- a line break is no bracket and no comma: it reaches the last test, which refuses it
    have hc : c ≠ '\n' := by rintro rfl; simp [fieldScan, isOpen, isClose] at h
    -- every branch that answers `true` goes on with the rest, at some depth
    have ⟨d', h'⟩ : ∃ d', fieldScan d' f = true := by
      unfold fieldScan at h
      split at h
      · exact ⟨_, h⟩
      · split at h
        · split at h
          · cases h
          · exact ⟨_, h⟩
        · split at h <;> exact ⟨d, ((Bool.and_eq_true _ _).mp h).2⟩
    simpa [Ne.symm hc] using ih d' h'

theorem render_no_nl (k : Str) (fs : List Str) (hk : keyOK k = true) (hf : ∀ f ∈ fs, fieldOK f = true) :
    '\n' ∉ renderLine k fs := by
  obtain ⟨_, _, _, _, hp⟩ := keyOK_iff.mp hk
  simp only [renderLine, List.mem_append, not_or]
  refine ⟨⟨fieldScan_no_nl k 0 (fieldScan_plain k hp), by decide⟩, fun h => ?_⟩
  obtain h | ⟨f, hfm, h⟩ := mem_join h
  · revert h; decide
  · exact fieldScan_no_nl f 0 ((fieldOK_iff f).mp (hf f hfm)).1 h

/-- the (type, rule) pairs `save_policy` writes for one section, in writing order -/
def secPairs (st : Store) (c : Char) : List (Str × Rule) :=
  st.flatMap fun e => if e.sec == some c then e.rules.map fun r => (e.key, r) else []

def savePairs (st : Store) : List (Str × Rule) := secPairs st 'p' ++ secPairs st 'g'

theorem saveLines_eq (st : Store) : saveLines st = (savePairs st).map fun p => renderLine p.1 p.2 := by
  have h : ∀ c, secLines st c = (secPairs st c).map fun p => renderLine p.1 p.2 := fun c => by
    simp only [secLines, secPairs, List.map_flatMap]
    congr 1; funext e; split <;> simp
  rw [saveLines, savePairs, List.map_append, h, h]

theorem flatMap_key {β : Type} (g : Entry → List β) (st : Store) (hn : keysNodup st = true) (e : Entry)
    (he : e ∈ st) : (st.flatMap fun x => if x.key = e.key then g x else []) = g e := by
  induction st with
  | nil => simp at he
  | cons x xs ih =>
    simp only [keysNodup, Bool.and_eq_true, Bool.not_eq_true', List.any_eq_false, beq_iff_eq] at hn
    rw [List.flatMap_cons]
    rcases List.mem_cons.mp he with rfl | hmem
    · have : (xs.flatMap fun x => if x.key = e.key then g x else []) = [] :=
        List.flatMap_eq_nil_iff.mpr fun y hy => if_neg (hn.1 y hy)
      simp [this]
    · rw [ih hn.2 hmem, if_neg fun h => hn.1 e hmem h.symm]; rfl

theorem rulesOf_entry (key : Str) (rules : List Rule) (k : Str) :
    rulesOf (rules.map fun r => (key, r)) k = if key == k then rules else [] := by
  induction rules with
  | nil => simp [rulesOf_nil]
  | cons r rs ih => rw [List.map_cons, rulesOf_cons, ih]; split <;> rfl

theorem rulesOf_flatMap {α : Type} (l : List α) (f : α → List (Str × Rule)) (k : Str) :
    rulesOf (l.flatMap f) k = l.flatMap fun x => rulesOf (f x) k := by
  induction l with
  | nil => rfl
  | cons x l ih => rw [List.flatMap_cons, List.flatMap_cons, rulesOf_append, ih]

theorem rulesOf_secPairs (st : Store) (c : Char) (hn : keysNodup st = true) (e : Entry) (he : e ∈ st) :
    rulesOf (secPairs st c) e.key = if e.sec == some c then e.rules else [] := by
  rw [← flatMap_key (fun x => if x.sec == some c then x.rules else []) st hn e he, secPairs, rulesOf_flatMap]
  congr 1; funext x
  by_cases h1 : x.sec == some c <;> by_cases h2 : x.key = e.key <;> simp [h1, h2, rulesOf_entry, rulesOf_nil]

theorem isPG_iff (e : Entry) : isPG e = true ↔ e.sec = some 'p' ∨ e.sec = some 'g' := by
  simp [isPG]

theorem rulesOf_savePairs (st : Store) (hn : keysNodup st = true) (e : Entry) (he : e ∈ st) :
    rulesOf (savePairs st) e.key = if isPG e then e.rules else [] := by
  rw [savePairs, rulesOf_append, rulesOf_secPairs st 'p' hn e he, rulesOf_secPairs st 'g' hn e he, isPG]
  cases hp : e.sec == some 'p' <;> cases hg : e.sec == some 'g' <;> simp_all

theorem extend_clearPG_savePairs (st : Store) (hn : keysNodup st = true) :
    extend (clearPG st) (savePairs st) = st := by
  rw [extend, clearPG, List.map_map]
  refine (List.map_congr_left fun e he => ?_).trans (List.map_id st)
  have hr := rulesOf_savePairs st hn e he
  rw [isPG] at hr
  cases hpg : (e.sec == some 'p' || e.sec == some 'g') <;>
    simp only [Function.comp_apply, hpg, hr, ↓reduceIte, Bool.false_eq_true, List.nil_append, List.append_nil, id_eq]

theorem savePairs_ok (st : Store) (h : policyOK st = true) :
    ∀ p ∈ savePairs st, keyOK p.1 = true ∧ p.2 ≠ [] ∧ ∀ f ∈ p.2, fieldOK f = true := by
  simp only [policyOK, Bool.and_eq_true, List.all_eq_true] at h
  -- a saved pair is a rule `r` of an entry `e` of section `p` or `g`, and of those `policyOK` speaks
  have sec (c : Char) (hc : c = 'p' ∨ c = 'g') :
      ∀ p ∈ secPairs st c, keyOK p.1 = true ∧ p.2 ≠ [] ∧ ∀ f ∈ p.2, fieldOK f = true := fun p hp => by
    simp only [secPairs, List.mem_flatMap, List.mem_ite_nil_right, List.mem_map, beq_iff_eq] at hp
    obtain ⟨e, he, hs, r, hr, rfl⟩ := hp
    have hpg : isPG e = true := by rcases hc with rfl | rfl <;> simp [isPG, hs]
    obtain ⟨hk, hrules⟩ : keyOK e.key = true ∧ ∀ r ∈ e.rules, ruleOK r = true := by simpa [hpg] using h.2 e he
    obtain ⟨hne, hf⟩ : r ≠ [] ∧ ∀ f ∈ r, fieldOK f = true := by simpa [ruleOK] using hrules r hr
    exact ⟨hk, hne, hf⟩
  intro p hp
  rcases List.mem_append.mp hp with hp | hp
  · exact sec 'p' (.inl rfl) p hp
  · exact sec 'g' (.inr rfl) p hp

theorem saveLines_ok (st : Store) (h : policyOK st = true) : ∀ l ∈ saveLines st, l ≠ [] ∧ '\n' ∉ l := fun l hl => by
  rw [saveLines_eq] at hl
  obtain ⟨p, hp, rfl⟩ := List.mem_map.mp hl
  have hok := savePairs_ok st h p hp
  exact ⟨by simp [renderLine], render_no_nl _ _ hok.1 hok.2.2⟩

/-- `kr` indexes the lines: the saved pairs in `saved_text`, the lines themselves in `extend_spec` -/
theorem parsed_lines {α : Type} (g : α → Str) (v : α → Option (Str × Rule)) (kr : List α)
    (h : ∀ p ∈ kr, parseLine (g p) = .ok (v p)) :
    firstError (kr.map g) = none ∧ parsedPairs (goodPrefix (kr.map g)) = kr.filterMap v := by
  induction kr with
  | nil => exact ⟨rfl, rfl⟩
  | cons p kr ih => cases hv : v p <;> simp_all [firstError, goodPrefix, parsedPairs, parsed]

/-- the saved text of a non-empty admissible policy, as either kind of adapter reads it back (`trim`: the file adapters
    strip every line) -/
theorem saved_text (st : Store) (h : policyOK st = true) (hne : saveLines st ≠ []) (trim : Bool) :
    firstError (textLines trim (saveFile st)) = none ∧
      parsedPairs (goodPrefix (textLines trim (saveFile st))) = savePairs st := by
  rw [textLines, saveFile, splitOn_join _ _ fun l hl => (saveLines_ok st h l hl).2, if_neg hne, saveLines_eq, List.map_map]
  have := parsed_lines ((fun l => if trim then strip l else l) ∘ fun p => renderLine p.1 p.2) some (savePairs st)
    fun p hp => by
      obtain ⟨h1, h2, h3⟩ := savePairs_ok st h p hp
      cases trim
      · exact line_roundtrip _ _ h1 h2 h3
      · exact line_roundtrip_file _ _ h1 h2 h3
  rwa [List.filterMap_some] at this

/-- file adapters; the empty policy is an empty file, whose single empty line is skipped -/
theorem loadFile_saveFile (st : Store) (h : policyOK st = true) (m : Store) :
    loadFile (saveFile st) m = (extend m (savePairs st), none) := by
  by_cases hemp : saveLines st = []
  · have hp : savePairs st = [] := by simpa [saveLines_eq] using hemp
    rw [saveFile, hemp, hp, extend_nil]
    rfl
  · obtain ⟨h1, h2⟩ := saved_text st h hemp true
    rw [load_full_general, h1, h2]

/-- C10, file adapter and async file adapter (`_save_policy_file` then `_load_policy_file`; the two adapters have the
    same code): every policy whose `p`/`g` rules are admissible is reproduced exactly — every policy type, same
    order; other assertions are untouched.  The empty policy is included (empty file). -/
theorem text_roundtrip_file (st : Store) (h : policyOK st = true) :
    loadFile (saveFile st) (clearPG st) = (st, none) := by
  rw [loadFile_saveFile st h, extend_clearPG_savePairs st (by simp only [policyOK, Bool.and_eq_true] at h; exact h.1)]

theorem saveString_eq_saveFile (st : Store) (h : policyOK st = true) : saveString st = saveFile st :=
  rstripChar_terminated '\n' _ (saveLines_ok st h)

theorem loadString_full (text : Str) (m : Store) (hne : text ≠ []) :
    loadString text m =
      (extend m (parsedPairs (goodPrefix (textLines false text))), firstError (textLines false text)) := by
  have hfun : (fun (l : Str) (st : Store) => if l.isEmpty then Except.ok st else loadPolicyLine l st) =
      fun l st => loadPolicyLine (id l) st := by
    funext l st; cases l <;> rfl
  rw [loadString, if_neg (by simpa using hne), hfun, loadLines_full]
  simp [textLines]

/-- C10, string adapter, for every non-empty admissible policy (a model without `g` included, F08) -/
theorem text_roundtrip_string_partial (st : Store) (h : policyOK st = true) (hne : saveLines st ≠ []) :
    loadString (saveString st) (clearPG st) = (st, none) := by
  have hn : keysNodup st = true := by simp only [policyOK, Bool.and_eq_true] at h; exact h.1
  obtain ⟨l, ls, hl⟩ := List.exists_cons_of_ne_nil hne
  have hs : saveFile st ≠ [] := by
    rw [saveFile, hl]
    exact join_ne_nil _ _ (saveLines_ok st h l (by simp [hl])).1
  obtain ⟨h1, h2⟩ := saved_text st h hne false
  rw [saveString_eq_saveFile st h, loadString_full _ _ hs, h1, h2, extend_clearPG_savePairs st hn]

/-- F08b: the empty policy does not come back through a string — `save_policy` stores `""`, which
    `load_policy` rejects -/
theorem text_roundtrip_string_empty (st : Store) (hemp : saveLines st = []) :
    loadString (saveString st) (clearPG st) = (clearPG st, some .invalidLine) := by
  simp [loadString, saveString, hemp, rstripChar]

/-! ## `load_spec`: the loader against the declarative reading of a policy text -/

theorem rulesOf_specLine (ls : List Str) (key : Str) : rulesOf (ls.filterMap specLine) key = rulesFor key ls := by
  induction ls with
  | nil => rfl
  | cons l ls ih =>
    rw [rulesFor, List.filterMap_cons, List.filterMap_cons, ← rulesFor, ← ih]
    rcases specLine l with _ | ⟨k, r⟩
    · rfl
    · rw [rulesOf_cons]
      by_cases hk : (k == key) = true <;> simp [hk]

theorem extend_spec (m : Store) (ls : List Str) (h : ∀ l ∈ ls, lineWF l = true) :
    (extend m (parsedPairs (goodPrefix ls)), firstError ls) =
      (m.map fun e => { e with rules := e.rules ++ rulesFor e.key ls }, none) := by
  have := parsed_lines id specLine ls fun l hl => parseLine_eq_spec l (h l hl)
  rw [List.map_id] at this
  simp only [this, extend, rulesOf_specLine]

/-- C10, file adapter and async file adapter: for every text whose (stripped) lines are inside the line
    grammar, loading yields exactly: every policy type the model defines extended, in text order, by the fields of the
    non-empty non-comment lines whose first field names it; lines naming another type change nothing. -/
theorem load_spec (text : Str) (m : Store) (h : ∀ l ∈ textLines true text, lineWF l = true) :
    loadFile text m =
      (m.map fun e => { e with rules := e.rules ++ rulesFor e.key (textLines true text) }, none) := by
  rw [load_full_general, extend_spec m _ h]

/-- C10, string adapter: as `load_spec` (lines are not stripped; the empty text is rejected) -/
theorem load_spec_string (text : Str) (m : Store) (hne : text ≠ [])
    (h : ∀ l ∈ textLines false text, lineWF l = true) :
    loadString text m =
      (m.map fun e => { e with rules := e.rules ++ rulesFor e.key (textLines false text) }, none) := by
  rw [loadString_full text m hne, extend_spec m _ h]

/-- Boolean form of `parseLine l = .ok (some kr)` (for `decide`) -/
def parsesTo (l : Str) (kr : Str × Rule) : Bool :=
  match parseLine l with
  | .ok (some x) => x == kr
  | _ => false

theorem parsesTo_iff (l : Str) (kr : Str × Rule) : parsesTo l kr = true ↔ parseLine l = .ok (some kr) := by
  unfold parsesTo
  split <;> simp_all

def parseFails (l : Str) (e : Err) : Bool :=
  match parseLine l with
  | .error x => x == e
  | _ => false

/-! ## the hypotheses can be met, and the excluded inputs do fail -/

def exRule : Rule := ["alice".toList, "f(a, [b, c])".toList, [], "a b#é".toList]

example : keyOK "p2".toList = true ∧ ruleOK exRule = true := by unfold exRule; eval_vector

example : parseLine (renderLine "p2".toList exRule) = .ok (some ("p2".toList, exRule)) :=
  line_roundtrip _ _ (by eval_vector) (by unfold exRule; eval_vector) (by unfold exRule; eval_vector)

def exPolicy : Store :=
  [{ key := ['r'], arity := 3, rules := [] },
   { key := ['p'], arity := 3, rules := [exRule, ["bob".toList]] },
   { key := "p2".toList, arity := 2, rules := [[[]]] },
   { key := ['g'], arity := 2, rules := [["alice".toList, "admin".toList]] }]

example : policyOK exPolicy = true ∧ saveLines exPolicy ≠ [] := by unfold exPolicy exRule; eval_vector

example : loadFile (saveFile exPolicy) (clearPG exPolicy) = (exPolicy, none) :=
  text_roundtrip_file exPolicy (by unfold exPolicy exRule; eval_vector)

def exText : Str := "p, alice, f(a, b), read\n# note\n\n  p2 , x\ng, alice, admin\nzz, ignored".toList

example : (textLines true exText).all lineWF = true := by
  unfold exText
  eval_vector

/-- the excluded points are really excluded by the code: a rule without fields comes back as `[""]`, a field with
    a top-level comma comes back as two, an unbalanced bracket raises -/
example : parsesTo (renderLine ['p'] []) (['p'], [[]]) = true := by decide +kernel
example : parsesTo (renderLine ['p'] ["a,b".toList]) (['p'], [['a'], ['b']]) = true := by eval_vector
example : parseFails (renderLine ['p'] ["a)".toList]) .indexError = true := by eval_vector

end Casbin.C10
