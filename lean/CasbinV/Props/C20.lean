import CasbinV.Proofs.EnfStep
/-!
# C20 — every successful policy change notifies the watcher exactly once

Subject: the notification part of `Casbin.Enf.step` (`persist`, `savePolicy`).
-/
namespace Casbin.Enf.C20

/-- the callback that corresponds to a management call, when the watcher offers it; else the generic `update` -/
def expected (cfg : Cfg) : Op → Option WCall
  | .add sec r => some (if cfg.watcherEx then .forAddPolicy sec r else .update)
  | .addMany sec rs => some (if cfg.watcherEx then .forAddPolicies sec rs else .update)
  | .remove sec r => some (if cfg.watcherEx then .forRemovePolicy sec r else .update)
  | .removeMany sec rs => some (if cfg.watcherEx then .forRemovePolicies sec rs else .update)
  | .removeFiltered sec idx vals => some (if cfg.watcherEx then .forRemoveFiltered sec idx vals else .update)
  | .update old new => some (if cfg.watcherUpd then .forUpdatePolicy old new else .update)
  | .updateMany olds news => some (if cfg.watcherUpd then .forUpdatePolicies olds news else .update)
  | .savePolicy => some (if cfg.watcherEx then .forSavePolicy else .update)
  | _ => none

/-- all conditions of the property's premise -/
def Armed (cfg : Cfg) (s : St) : Prop :=
  cfg.hasAdapter = true ∧ s.autoSave = true ∧ cfg.hasWatcher = true ∧ s.autoNotify = true

theorem noteOf_exOnly (cfg : Cfg) (w : WCall) : noteOf (exOnly cfg w) = if cfg.watcherEx then w else .update := by
  unfold exOnly; split <;> rfl

theorem noteOf_updOnly (cfg : Cfg) (w : WCall) : noteOf (updOnly cfg w) = if cfg.watcherUpd then w else .update := by
  unfold updOnly; split <;> rfl

theorem _root_.Casbin.Enf.Commits.note_eq {cfg : Cfg} {s : St} {op : Op} {ch : Change} (hc : Commits cfg s op ch) :
    expected cfg op = some (noteOf ch.note) := by
  cases hc <;> simp only [expected, noteOf_exOnly, noteOf_updOnly]

/-- C20: with adapter, auto-save, auto-notify and a watcher, a policy-changing management call that
    returns (does not raise) results in exactly one notification when it reports success — the operation's own
    callback with the operation's own arguments when the watcher offers it, else the generic update — and in none
    when it reports failure or "no change". -/
theorem notify_once (cfg : Cfg) (s : St) (op : Op) (hop : isChange op = true) (harm : Armed cfg s) (r : Ret)
    (hr : (step cfg s op).2 = .ok r) :
    (step cfg s op).1.wlog = if success (.ok r) then s.wlog ++ (expected cfg op).toList else s.wlog := by
  obtain ⟨h1, h2, h3, h4⟩ := harm
  rcases step_cases cfg s op hop with ⟨r', h, hq⟩ | ⟨ch, hc, h⟩
  · rw [h] at hr ⊢
    cases hr
    simp [hq]
  · rw [h] at hr ⊢
    rw [commit_ok hr, hc.success, hc.note_eq, commit_wlog, h1, h2, h3, h4]
    rfl

/-- while auto-notify is off (or no watcher is set, or auto-save is off, or there is no adapter) a policy-changing
    management call results in no notification -/
theorem notify_none_unarmed (cfg : Cfg) (s : St) (op : Op) (hop : isChange op = true)
    (hoff : (cfg.hasAdapter && s.autoSave && cfg.hasWatcher && s.autoNotify) = false) :
    (step cfg s op).1.wlog = s.wlog := by
  exact step_of_commits (P := fun s' => s'.wlog = s.wlog) cfg s op hop rfl fun ch _ => by
    rw [commit_wlog, hoff]; rfl

/-- `save_policy` notifies exactly once (whatever the auto-notify flag), with the save callback when offered -/
theorem save_notifies_once (cfg : Cfg) (s : St) (hw : cfg.hasWatcher = true) :
    (step cfg s .savePolicy).1.wlog = s.wlog ++ (expected cfg .savePolicy).toList ∧
    (step cfg s .savePolicy).2 = .ok .unit := by
  simp [step, hw, expected]

example :
    let cfg : Cfg := { hasAdapter := true, hasWatcher := true, watcherEx := true }
    Armed cfg {} ∧ (step cfg {} (.add .g ["alice", "admin"])).1.wlog = [.forAddPolicy .g ["alice", "admin"]] ∧
    (step cfg (step cfg {} (.add .g ["alice", "admin"])).1 (.add .g ["alice", "admin"])).1.wlog =
      [.forAddPolicy .g ["alice", "admin"]] := by
  refine ⟨⟨rfl, rfl, rfl, rfl⟩, by decide, by decide⟩

end Casbin.Enf.C20
