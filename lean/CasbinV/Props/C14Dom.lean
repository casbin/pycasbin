import CasbinV.Props.C14
namespace Casbin.C14
open Casbin.RM Casbin.C03

/-! # C14 / C04 at role-manager level — `DomainManager` with a domain matching function AND a role-name matching
function at the same time: the per-domain caches always equal a rebuild

A cached per-domain manager (which copies pattern roles whenever it meets a name) and the manager
`_get_role_manager` would build now are both `Coh` over the assignments that apply in the domain, and answers are a
function of those: so `DInv` is all a history has to keep, also through registration and RE-registration of either
function at any point, over existing links and caches.

Hypotheses (all on the ROLE-NAME matching function; NOTHING is assumed of the domain matching function, see
`nonreflexive_domain_fn` below):
* `Trans f` for every registered name matching function — dropped: `domain_nontransitive_cache_differs` (F22, open);
* patterns on the user side (`ROk`: no other name matches an assigned role under the function in force) — dropped:
  `role_side_pattern_order_dependent`.
-/

/-- In every coherent state, the cached manager of a domain gives the `has_link` and `get_roles` answers of the
    manager `DomainManagerBase._get_role_manager` would build at this moment from the link stores (own domain + every
    recorded domain pattern the domain matches), whatever names the cached one has seen and copied meanwhile. -/
theorem cached_eq_rebuilt {s : DM} (h : DInv s) {d : Name} {rm : RM} (hc : (d, rm) ∈ s.rmMap) (u r : Name) :
    (rm.hasLink u r).2 = ((s.build d).hasLink u r).2 ∧
    (∀ x, x ∈ (rm.getRoles u).2 ↔ x ∈ ((s.build d).getRoles u).2) :=
  have c : Coh _ _ _ rm := h.cache d rm hc
  have b := build_spec h d
  ⟨Bool.eq_iff_iff.mpr ((c.hasLink_iff h.trans u r).trans (b.hasLink_iff h.trans u r).symm),
   fun x => (c.getRoles_iff h.trans u x).trans (b.getRoles_iff h.trans u x).symm⟩

/-- two coherent domain managers with the same functions, level and records give the same `has_link` and `get_roles`
    answers (whatever their caches and whatever the order of their stores) -/
theorem dm_observational {s t : DM} (hs : DInv s) (ht : DInv t)
    (hm : t.matchFn = s.matchFn) (hd : t.dmatchFn = s.dmatchFn) (hl : t.maxLevel = s.maxLevel)
    (hrec : ∀ d l, t.recorded d l ↔ s.recorded d l) (u r d : Name) :
    (s.hasLink u r d).2 = (t.hasLink u r d).2 ∧ (∀ x, x ∈ (s.getRoles u d).2 ↔ x ∈ (t.getRoles u d).2) := by
  refine ⟨?_, fun x => ?_⟩
  · rw [Bool.eq_iff_iff, dm_hasLink_iff hs, dm_hasLink_iff ht, hl]; simp only [DM.covers, hd, hrec, hm]
  · rw [dm_getRoles_iff hs, dm_getRoles_iff ht]; simp only [DM.covers, hd, hrec, hm]

/-- the same manager with an empty cache: a fresh `DomainManager` on which the current links were added -/
def uncached (s : DM) : DM := { s with rmMap := [] }

theorem uncached_inv {s : DM} (h : DInv s) : DInv (uncached s) := dinv_no_cache h rfl rfl rfl

/-- `get_users` under a name matching function reports the matching names *seen so far*: it is sound (everything
    reported holds the role through an assignment applying in the domain) and contains every assigned user -/
theorem dm_getUsers_pattern {s : DM} (h : DInv s) (n d u : Name) :
    (u ∈ (s.getUsers n d).2 → EStar s.matchFn (s.effLinks d) u n) ∧
    ((u, n) ∈ s.effLinks d → u ∈ (s.getUsers n d).2) := by
  have hc := getRM_coh h d
  have hu : u ∈ (s.getUsers n d).2 ↔ _ := hc.getUsers_iff h.trans n u
  simp only [EStar, mem_effLinks h.keys, hu]
  refine ⟨And.right, fun hl => ⟨.inl ?_, u, hl, .inl rfl⟩⟩
  exact (hc.inv.ends u n ((hc.links _).mpr hl)).1

inductive ROp
  | op (o : DOp)
  | regMatch (f : MatchFn)     -- add_matching_func / Enforcer.add_named_matching_func
  | regDom (f : MatchFn)       -- add_domain_matching_func / Enforcer.add_named_domain_matching_func

def rstep (s : DM) : ROp → DM × Option Err
  | .op o => dstep s o
  | .regMatch f => (s.addMatchingFunc f, none)
  | .regDom f => (s.addDomainMatchingFunc f, none)

def rrun (s : DM) : List ROp → DM
  | [] => s
  | op :: ops => rrun (rstep s op).1 ops

def rerrors (s : DM) : List ROp → List Err
  | [] => []
  | op :: ops => (match (rstep s op).2 with | some e => [e] | none => []) ++ rerrors (rstep s op).1 ops

def rupd (P : Name → Link → Prop) : ROp → Name → Link → Prop
  | .op o => dupd P o
  | _ => P

def rforce (P : Name → Link → Prop) : List ROp → Name → Link → Prop
  | [] => P
  | op :: ops => rforce (rupd P op) ops

/-- the two hypotheses of the head comment along a history, each asked of the name matching function and the records
    in force when the call is made.  No condition on domain matching functions. -/
def ROk (s : DM) : List ROp → Prop
  | [] => True
  | op :: ops =>
    (match op with
      | .op (.add _ b _) => ∀ n, s.matchFn n b = true → n = b
      | .regMatch f => Trans f ∧ ∀ d l, s.recorded d l → ∀ n, f n l.2 = true → n = l.2
      | _ => True) ∧ ROk (rstep s op).1 ops

/-- `add_matching_func` keeps the caches coherent: every cached manager is rebuilt (`RoleManager._rebuild`) from its
    own link store under the new function -/
theorem regMatch_inv {s : DM} (h : DInv s) (f : MatchFn) (ht : Trans f)
    (hpl : ∀ d l, s.recorded d l → ∀ n, f n l.2 = true → n = l.2) :
    DInv (s.addMatchingFunc f) ∧ (s.addMatchingFunc f).allLinks = s.allLinks ∧
    (s.addMatchingFunc f).dmatchFn = s.dmatchFn ∧ (s.addMatchingFunc f).matchFn = f ∧
    (s.addMatchingFunc f).maxLevel = s.maxLevel := by
  refine ⟨⟨h.keys, ?_, h.stores, ht, hpl, fun d rm' hmem => ?_⟩, rfl, rfl, rfl, rfl⟩
  · show ((s.rmMap.map fun e => (e.1, e.2.addMatchingFunc f)).map (·.1)).Nodup
    rw [map_keys _ _ (by intro e; rfl)]; exact h.ckeys
  · obtain ⟨⟨k, rm⟩, hrm, he⟩ := List.mem_map.mp hmem
    obtain ⟨rfl, rfl⟩ := Prod.mk.inj he
    obtain ⟨c1, -, -, c4⟩ := h.cache k rm hrm
    obtain ⟨i1, i2, i3, i4⟩ := addMatchingFunc_inv rm f ht fun l hl =>
      let ⟨d', _, hrec⟩ := (c4 l).mp hl; hpl d' l hrec
    exact ⟨i3.trans c1, i2, i1, fun l => (i4 l).trans (c4 l)⟩

/-- `add_domain_matching_func` drops every cached manager (`_rebuild`): coherent for ANY function -/
theorem regDom_inv {s : DM} (h : DInv s) (f : MatchFn) :
    DInv (s.addDomainMatchingFunc f) ∧ (s.addDomainMatchingFunc f).allLinks = s.allLinks ∧
    (s.addDomainMatchingFunc f).dmatchFn = some f ∧ (s.addDomainMatchingFunc f).matchFn = s.matchFn ∧
    (s.addDomainMatchingFunc f).maxLevel = s.maxLevel :=
  ⟨dinv_no_cache h rfl rfl rfl, rfl, rfl, rfl, rfl⟩

/-- `ROk s [op]`: what `ROk` asks of the first call of a history -/
theorem rstep_inv {s : DM} (h : DInv s) (op : ROp) (hok : ROk s [op]) :
    DInv (rstep s op).1 ∧ (rstep s op).1.maxLevel = s.maxLevel ∧
    (∀ d l, (rstep s op).1.recorded d l ↔ rupd s.recorded op d l) ∧ (rstep s op).2 = none := by
  cases op with
  | op o =>
    obtain ⟨h1, _, _, h4, h5, h6⟩ := dstep_inv h o (by
      intro a b d e; subst e; exact hok.1)
    exact ⟨h1, h4, h5, h6⟩
  | regMatch f =>
    obtain ⟨i1, i2, _, _, i5⟩ := regMatch_inv h f hok.1.1 hok.1.2
    refine ⟨i1, i5, fun d l => ?_, rfl⟩
    show (s.addMatchingFunc f).recorded d l ↔ s.recorded d l
    rw [recorded_of_allLinks i2]
  | regDom f =>
    obtain ⟨i1, i2, _, _, i5⟩ := regDom_inv h f
    refine ⟨i1, i5, fun d l => ?_, rfl⟩
    show (s.addDomainMatchingFunc f).recorded d l ↔ s.recorded d l
    rw [recorded_of_allLinks i2]

theorem rrun_inv {s : DM} (h : DInv s) (ops : List ROp) (hok : ROk s ops) :
    DInv (rrun s ops) ∧ (rrun s ops).maxLevel = s.maxLevel ∧
    (∀ d l, (rrun s ops).recorded d l ↔ rforce s.recorded ops d l) ∧ rerrors s ops = [] := by
  induction ops generalizing s with
  | nil => exact ⟨h, rfl, fun d l => Iff.rfl, rfl⟩
  | cons op ops ih =>
    obtain ⟨h1, h2, h3, h4⟩ := rstep_inv h op ⟨hok.1, trivial⟩
    obtain ⟨i1, i2, i3, i4⟩ := @ih (rstep s op).1 h1 hok.2
    refine ⟨i1, i2.trans h2, fun d l => ?_, by simp [rerrors, h4, i4]⟩
    have : (rstep s op).1.recorded = rupd s.recorded op := funext fun d' => funext fun l' => propext (h3 d' l')
    show (rrun (rstep s op).1 ops).recorded d l ↔ rforce (rupd s.recorded op) ops d l
    rw [← this]; exact i3 d l

/-- C04 at role-manager level with patterns; C14 "whatever the order". On a new `DomainManager` (name matching
    function `mf`, equality in the code; domain matching function `dmf`, none in the code) run ANY history of adds,
    deletes, queries, clears and (re-)registrations of both kinds of function.  Then no call raised, and in the final
    state `s`:
    * `has_link` and `get_roles` answer like the same manager with an EMPTY cache, i.e. like a fresh `DomainManager`
      holding the current links and functions;
    * `has_link(u, r, d)` ⇔ `r` is reachable from `u` in fewer than `max_hierarchy_level` effective edges over the
      records applying in `d`, domain patterns and user patterns being read under the CURRENT functions;
    * the records in force are those the adds / deletes / clears of the history say. -/
theorem registration_history (L : Nat) (mf : MatchFn) (dmf : Option MatchFn) (ht : Trans mf)
    (ops : List ROp) (hok : ROk (dinit L mf dmf) ops) (s : DM) (hs : s = rrun (dinit L mf dmf) ops)
    (u r d : Name) :
    rerrors (dinit L mf dmf) ops = [] ∧
    (s.hasLink u r d).2 = ((uncached s).hasLink u r d).2 ∧
    (∀ x, x ∈ (s.getRoles u d).2 ↔ x ∈ ((uncached s).getRoles u d).2) ∧
    ((s.hasLink u r d).2 = true ↔
      ∃ n, n < L ∧ PathR (fun x y => ∃ a d', s.covers d d' ∧ s.recorded d' (a, y) ∧
                                        (x = a ∨ s.matchFn x a = true)) u r n) ∧
    (∀ d' l, s.recorded d' l ↔ rforce (fun _ _ => False) ops d' l) := by
  obtain ⟨h1, h2, h3, h4⟩ := rrun_inv (dinit_inv L mf dmf ht) ops hok
  rw [← hs] at h1 h2 h3
  obtain ⟨o1, o2⟩ := dm_observational h1 (uncached_inv h1) rfl rfl rfl (fun _ _ => Iff.rfl) u r d
  have h2' : s.maxLevel = L := h2
  exact ⟨h4, o1, o2, h2' ▸ dm_hasLink_iff h1 u r d, fun d' l => by rw [h3, dinit_recorded]⟩

/-! ## removal removes exactly the grants the removed record gave -/

/-- After `delete_link(a, b, d)` in any coherent state (cached managers present or not),
    `has_link(u, r, d0)` is the path semantics over the records applying in `d0` MINUS the one record `(d, (a, b))` —
    a grant that another record (the same link under another matching domain pattern, or an overlapping name
    pattern) also gives stays. -/
theorem domain_delete_exact {s : DM} (h : DInv s) (a b d u r d0 : Name) :
    (s.deleteLink a b d).2 = none ∧
    (((s.deleteLink a b d).1.hasLink u r d0).2 = true ↔
      ∃ n, n < s.maxLevel ∧ PathR (fun x y => ∃ a' d', s.covers d0 d' ∧ s.recorded d' (a', y) ∧
                                        ¬ (d' = d ∧ (a', y) = (a, b)) ∧ (x = a' ∨ s.matchFn x a' = true)) u r n) := by
  obtain ⟨i1, i2, i3, i4, i5, i6⟩ := dm_deleteLink h a b d
  refine ⟨i2, ?_⟩
  rw [dm_hasLink_iff i1, i6]
  simp only [DM.covers, i4, i5, i3, and_assoc]

/-- While the link is also recorded for another domain `d2` that applies in `d0`, deleting its record for `d` changes
    no `has_link` answer in `d0`. -/
theorem shared_record_survives {s : DM} (h : DInv s) (a b d d2 d0 : Name) (hne : d2 ≠ d)
    (hc : s.covers d0 d2) (hrec : s.recorded d2 (a, b)) (u r : Name) :
    ((s.deleteLink a b d).1.hasLink u r d0).2 = (s.hasLink u r d0).2 := by
  rw [Bool.eq_iff_iff, (domain_delete_exact h a b d u r d0).2, dm_hasLink_iff h]
  -- the deleted record is replaced, as a witness, by its twin under `d2`
  refine exists_congr fun n => and_congr_right fun _ => PathR.congr fun x y =>
    ⟨fun ⟨a', d', hc', hr, _, hx⟩ => ⟨a', d', hc', hr, hx⟩, fun ⟨a', d', hc', hr, hx⟩ => ?_⟩
  by_cases hh : d' = d ∧ (a', y) = (a, b)
  · obtain ⟨rfl, rfl⟩ := Prod.mk.inj hh.2
    exact ⟨a', d2, hc, hrec, fun hh' => hne hh'.1, hx⟩
  · exact ⟨a', d', hc', hr, hh, hx⟩

/-- `get_roles` after deleting an assignment: exactly the roles the REMAINING assignments give (directly or through
    a user pattern the name matches) -/
theorem pattern_delete_roles {s : RM} (ht : Trans s.mtch) (h : Inv s) (a b u r : Name) :
    r ∈ ((s.deleteLink a b).1.getRoles u).2 ↔
      ∃ a', (a', r) ∈ s.allLinks ∧ (a', r) ≠ (a, b) ∧ (u = a' ∨ s.mtch u a' = true) := by
  obtain ⟨h1, -, -, -, h5⟩ := deleteLink_inv ht h a b
  rw [getRoles_iff (by simpa using ht) h1, deleteLink_mtch]
  simp only [EStar, h5, and_assoc]

/-- A name matching two user patterns that both grant `b`: deleting one of the two assignments keeps the grant (F10) -/
theorem overlap_survives {s : RM} (ht : Trans s.mtch) (h : Inv s) (a a' b u : Name)
    (hin : (a', b) ∈ s.allLinks) (hne : a' ≠ a) (hu : u = a' ∨ s.mtch u a' = true) :
    b ∈ ((s.deleteLink a b).1.getRoles u).2 :=
  (pattern_delete_roles ht h a b u b).mpr ⟨a', hin, fun he => hne (Prod.mk.inj he).1, hu⟩

def neverDom : MatchFn := fun _ _ => false

/-- F36 (`DM.affected` / `DM.delCaches`): under a domain matching function that does not relate a domain to itself
    (regex_match on `d(1)`, glob_match on `d[1]`) the cached manager of the very domain a link is added to / deleted
    from is updated all the same. -/
theorem nonreflexive_domain_fn :
    let eq : MatchFn := fun a b => a == b
    ((drun (dinit 10 eq (some neverDom)) [.has "a" "r" "d", .add "a" "r" "d"]).hasLink "a" "r" "d").2 = true ∧
    ((drun (dinit 10 eq (some neverDom)) [.add "a" "r" "d", .has "a" "r" "d", .del "a" "r" "d"]).hasLink "a" "r" "d").2 = false := by
  decide +kernel

/-- the user-side pattern `*`, both as a name pattern and as a domain pattern -/
def starFn : MatchFn := fun k p => p == "*" || k == p

/-- a history for `registration_history`: links first, a cache built under equality, then BOTH functions registered,
    more links, the domain function registered again -/
def demoOps : List ROp :=
  [.op (.add "*" "g1" "*"), .op (.has "x" "g1" "d1"), .regMatch starFn, .regDom starFn,
   .op (.has "x" "g1" "d1"), .op (.add "g1" "g2" "d1"), .regDom starFn, .op (.del "*" "g1" "*"), .op (.add "*" "g1" "*")]

example : ((rrun (dinit 10 (fun a b => a == b) none) demoOps).hasLink "x" "g2" "d1").2 = true := by decide +kernel

theorem demo_ok : ROk (dinit 10 (fun a b => a == b) none) demoOps := by
  have hplain : ∀ (b : Name), b = "g1" ∨ b = "g2" → ∀ n, starFn n b = true → n = b := by
    intro b hb n hn
    rcases hb with rfl | rfl <;> simpa [starFn] using hn
  have h1 : ∀ n, (dinit 10 (fun a b => a == b) none).matchFn n "g1" = true → n = "g1" := fun n hn => by
    simpa [dinit] using hn
  -- one conjunct per call of `demoOps`: only the adds (1st, 6th, 9th) and the registration of `starFn` (3rd) ask
  -- something
  refine ⟨h1, trivial, ⟨star_trans, fun d l hr => ?_⟩, trivial, trivial, ?_, trivial, trivial, ?_, trivial⟩
  · -- the one record when `starFn` is registered is that of the first add
    obtain h | ⟨-, rfl⟩ :=
      ((rrun_inv (dinit_inv 10 _ none trans_beq) (demoOps.take 2) ⟨h1, trivial, trivial⟩).2.2.1 d l).mp hr
    · rw [dinit_recorded] at h; exact h.elim
    · exact hplain "g1" (Or.inl rfl)
  · exact hplain "g2" (Or.inr rfl)
  · exact hplain "g1" (Or.inl rfl)

example : ∀ u r d, ((rrun (dinit 10 (fun a b => a == b) none) demoOps).hasLink u r d).2 =
    ((uncached (rrun (dinit 10 (fun a b => a == b) none) demoOps)).hasLink u r d).2 :=
  fun u r d => (registration_history 10 _ none trans_beq demoOps demo_ok _ rfl u r d).2.1

/-- a cache `cached_eq_rebuilt` speaks about: the manager of `d1` was built before the link was added and has met `x`
    and `y`, which a rebuilt one has not -/
example : (rrun (dinit 10 starFn (some starFn))
    [.op (.has "x" "g1" "d1"), .op (.add "*" "g1" "*"), .op (.has "y" "g1" "d1")]).rmMap.length = 1 := by decide +kernel

/-- `shared_record_survives` / `domain_delete_exact` on the same link under `*` and `d1` -/
example :
    let s := drun (dinit 10 starFn (some starFn)) [.add "*" "g1" "*", .add "*" "g1" "d1", .has "x" "g1" "d1"]
    ((s.deleteLink "*" "g1" "*").1.hasLink "x" "g1" "d1").2 = true ∧
    (((s.deleteLink "*" "g1" "*").1.deleteLink "*" "g1" "d1").1.hasLink "x" "g1" "d1").2 = false ∧
    ((s.deleteLink "*" "g1" "*").1.hasLink "x" "g1" "d2").2 = false := by decide +kernel

/-- `overlap_survives`: `/b/1` matches `/b/:id` and `/b/*` -/
example :
    let s := run (start 10 km2) [.add "/b/:id" "g1", .has "/b/1" "g1", .add "/b/*" "g1"]
    ((s.deleteLink "/b/:id" "g1").1.getRoles "/b/1").2 = ["g1"] ∧
    (((s.deleteLink "/b/:id" "g1").1.deleteLink "/b/*" "g1").1.getRoles "/b/1").2 = [] := by decide +kernel

/-- Negative witness for `Trans` at domain-manager level (F22, open): with the non-transitive `km2` as name matching
    function the CACHED manager of `d1` (which saw `/b/1/2` before the assignments) and the manager rebuilt from the
    same links disagree. -/
theorem domain_nontransitive_cache_differs :
    let s := drun (dinit 10 km2 (some starFn)) [.has "/b/1/2" "g1" "d1", .add "/b/:id" "g1" "*", .add "/b/*" "g2" "*"]
    (s.hasLink "/b/1/2" "g1" "d1").2 = false ∧ ((uncached s).hasLink "/b/1/2" "g1" "d1").2 = true := by
  decide +kernel

/-- a transitive function with a pattern on the ROLE side: `g1` matches the role `g*` -/
def roleStar : MatchFn := fun k p => k == p || (k == "g1" && p == "g*")

theorem roleStar_trans : Trans roleStar := by
  intro n p a h1 h2
  simp only [roleStar, Bool.or_eq_true, Bool.and_eq_true, beq_iff_eq] at *
  rcases h1 with rfl | ⟨rfl, rfl⟩
  · exact h2
  · rcases h2 with rfl | ⟨h, _⟩
    · exact Or.inr ⟨rfl, rfl⟩
    · exact absurd h (by decide)

/-- Negative witness for the user-side-pattern hypothesis (`PlainRoles` / `ROk`): with a (transitive) function under
    which another name matches an assigned ROLE, `get_roles` depends on whether that name was first seen before or
    after the assignment (cached vs rebuilt differ). -/
theorem role_side_pattern_order_dependent :
    ((run (start 10 roleStar) [.add "a" "g*", .has "g1" "g1"]).getRoles "a").2 = ["g*", "g1"] ∧
    ((run (start 10 roleStar) [.has "g1" "g1", .add "a" "g*"]).getRoles "a").2 = ["g*"] := by
  decide +kernel

def roleG : MatchFn := fun k p => k == p || (p == "/g/*" && k == "/g/x1")

/-- F35 (`linked`, `RM.gone`), pattern on the role side — outside the hypotheses of the theorems above, checked on
    the model: a name matching the role pattern that was first seen AFTER the assignment loses the grant when the
    assignment is revoked; deleting a direct assignment to that name keeps the grant the pattern assignment gives;
    revoking one holder's pattern assignment leaves the other holder's grant. -/
theorem role_side_revocation :
    ((run (start 10 roleG) [.add "bob" "/g/*", .has "bob" "/g/x1", .del "bob" "/g/*"]).hasLink "bob" "/g/x1").2 = false ∧
    ((run (start 10 roleG) [.add "bob" "/g/*", .add "bob" "/g/x1", .del "bob" "/g/x1"]).hasLink "bob" "/g/x1").2 = true ∧
    ((run (start 10 roleG) [.add "bob" "/g/*", .add "al" "/g/*", .has "al" "/g/x1", .del "bob" "/g/*"]).hasLink "al" "/g/x1").2 = true := by
  decide +kernel

end Casbin.C14
