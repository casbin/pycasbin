import CasbinV.Props.C04
import CasbinV.Props.C07
import CasbinV.Props.C07b
import CasbinV.Props.C07f
import CasbinV.Model.LoadOrd
/-!
# C11 (ordering) — a reload that fails WHILE ORDERING the delivered rules leaves the enforcer exactly as it was

Subject: `Casbin.Enf.loadOrd cfg o s k` (Model/LoadOrd.lean): `load_policy` of a model that orders its rules
(`sort_policies_by_subject_hierarchy`, `sort_policies_by_priority`, both raising on ill-formed values), between the
adapter and the link building of `Model/Enforcer.lean`'s `loadCore`.
-/
namespace Casbin.Enf.C11o
open Casbin.Policy Casbin.Enf.C04

/-! ## the extension is conservative -/

theorem loadCore_eq_from (cfg : Cfg) (s0 : St) : loadCore cfg s0 = loadCoreFrom cfg s0 s0.store := rfl

theorem orderStore_default (st : Pol) : orderStore {} st = .ok st := rfl

/-- a model that orders nothing (no `p_priority` token, no `subjectPriority` effect): `loadOrd` IS the `load_policy`
    of Model/Enforcer.lean, about which C04 / C05 / C09 / C11 / C15 / C20 speak -/
theorem loadOrd_default (cfg : Cfg) (s : St) (k : Option Nat) :
    loadOrd cfg {} s k = ((step cfg s (.loadPolicy k)).1, liftE (step cfg s (.loadPolicy k)).2) := by
  simp only [loadOrd, step, orderStore_default]
  split
  · rfl
  · rfl

/-! ## the ways a call ends -/

/-- the state a `load_policy` call leaves when it touched nothing: only the adapter saw a call -/
def logged (s : St) : St := { s with alog := s.alog ++ [.loadPolicy], ev := s.ev ++ [.adapter .loadPolicy] }

/-- `load_policy` once `new_model` is complete: the swap, or a failure while linking and the rollback relink from the
    OLD rules (which may itself fail: the last conjunct is an implication) -/
theorem loadCoreFrom_cases (cfg : Cfg) (s0 : St) (new : Pol) :
    (∃ l, loadCoreFrom cfg s0 new = ({ s0 with pol := new, links := l }, .ok .unit) ∧
      if s0.autoBuild then rebuildAll cfg new = .ok l else l = s0.links) ∨
    (∃ e l, loadCoreFrom cfg s0 new = ({ s0 with links := l }, .error e) ∧ s0.autoBuild = true ∧
      rebuildAll cfg new = .error e ∧ ∀ l', rebuildAll cfg s0.pol = .ok l' → l = l') := by
  unfold loadCoreFrom
  cases hab : s0.autoBuild with
  | false => exact Or.inl ⟨s0.links, rfl, by simp⟩
  | true =>
    cases hnew : rebuildAll cfg new with
    | ok l => exact Or.inl ⟨l, rfl, by simp⟩
    | error e =>
      cases hold : rebuildAll cfg s0.pol with
      | ok l => exact Or.inr ⟨e, l, rfl, rfl, rfl, fun l' h => by cases h; rfl⟩
      | error e' => exact Or.inr ⟨e, {}, rfl, rfl, rfl, fun l' h => by cases h⟩

theorem loadOrd_cases (cfg : Cfg) (o : OrdCfg) (s : St) (k : Option Nat) :
    (failsAt k (s.store.p.length + s.store.g.length + s.store.g2.length) = true ∧
      loadOrd cfg o s k = (logged s, .error (.enf .adapterFailure))) ∨
    (failsAt k (s.store.p.length + s.store.g.length + s.store.g2.length) = false ∧
      ((∃ e, orderStore o s.store = .error e ∧ loadOrd cfg o s k = (logged s, .error (.ord e))) ∨
       (∃ new, orderStore o s.store = .ok new ∧
         loadOrd cfg o s k = ((loadCoreFrom cfg (logged s) new).1, liftE (loadCoreFrom cfg (logged s) new).2)))) := by
  unfold loadOrd
  cases failsAt k (s.store.p.length + s.store.g.length + s.store.g2.length) with
  | true => exact Or.inl ⟨rfl, rfl⟩
  | false =>
    cases orderStore o s.store with
    | error e => exact Or.inr ⟨rfl, Or.inl ⟨e, rfl, rfl⟩⟩
    | ok new => exact Or.inr ⟨rfl, Or.inr ⟨new, rfl, rfl⟩⟩

theorem liftE_eq_error {x : Except EErr Ret} {e : LErr} : liftE x = .error e ↔ ∃ e', e = .enf e' ∧ x = .error e' := by
  cases x <;> simp [liftE, eq_comm]

theorem liftE_eq_ok {x : Except EErr Ret} {r : Ret} : liftE x = .ok r ↔ x = .ok r := by
  cases x <;> simp [liftE]

/-! ## failure while ordering -/

/-- `load_policy` raises an ordering exception iff the adapter delivered everything and the ordering step rejects
    what was delivered -/
theorem ordering_failure_iff (cfg : Cfg) (o : OrdCfg) (s : St) (k : Option Nat) (e : OErr) :
    (loadOrd cfg o s k).2 = .error (.ord e) ↔
      failsAt k (s.store.p.length + s.store.g.length + s.store.g2.length) = false ∧ orderStore o s.store = .error e := by
  rcases loadOrd_cases cfg o s k with ⟨hf, h⟩ | ⟨hf, ⟨e', ho, h⟩ | ⟨new, ho, h⟩⟩
  · simp [h, hf]
  · simp [h, hf, ho]
  · simp [h, hf, ho, liftE_eq_error]

/-- If `load_policy` raises while ordering the delivered rules, the enforcer state is LITERALLY the state before,
    except that the adapter has seen one `load_policy` call. No hypothesis on the state (coherent or not): the sorts
    work on the deep copy and run before the role managers are cleared, there is nothing to roll back. -/
theorem ordering_failure_changes_nothing (cfg : Cfg) (o : OrdCfg) (s : St) (k : Option Nat) (e : OErr)
    (hfail : (loadOrd cfg o s k).2 = .error (.ord e)) : (loadOrd cfg o s k).1 = logged s := by
  rcases loadOrd_cases cfg o s k with ⟨_, h⟩ | ⟨_, ⟨_, _, h⟩ | ⟨_, _, h⟩⟩
  · rw [h]
  · rw [h]
  · simp [h, liftE_eq_error] at hfail

/-- everything observable after a load that failed while ordering is what it was before -/
theorem ordering_failure_frame (cfg : Cfg) (o : OrdCfg) (s : St) (k : Option Nat) (e : OErr)
    (hfail : (loadOrd cfg o s k).2 = .error (.ord e)) :
    let s' := (loadOrd cfg o s k).1
    s'.pol = s.pol ∧ s'.links = s.links ∧ s'.autoBuild = s.autoBuild ∧ s'.autoSave = s.autoSave ∧
    s'.autoNotify = s.autoNotify ∧ s'.store = s.store ∧ s'.wlog = s.wlog ∧ s'.alog = s.alog ++ [.loadPolicy] ∧
    (∀ sh req, enforceQ sh s' req = enforceQ sh s req) ∧ (∀ sh req, enforceQO sh s' req = enforceQO sh s req) := by
  intro s'
  have h : s' = logged s := ordering_failure_changes_nothing cfg o s k e hfail
  rw [h]
  exact ⟨rfl, rfl, rfl, rfl, rfl, rfl, rfl, rfl, fun _ _ => rfl, fun _ _ => rfl⟩

/-! ## any failure, coherent state: the rollback relink restores the links -/

/-- a failed ordering reload — whatever the failure: adapter, ordering, link building — keeps the policy and
    C04's coherence invariant -/
theorem failed_loadOrd_coherent (cfg : Cfg) (o : OrdCfg) (s : St) (h : Coherent cfg s) (k : Option Nat) (e : LErr)
    (hfail : (loadOrd cfg o s k).2 = .error e) :
    (loadOrd cfg o s k).1.pol = s.pol ∧ Coherent cfg (loadOrd cfg o s k).1 ∧
    (loadOrd cfg o s k).1.autoBuild = s.autoBuild ∧ (loadOrd cfg o s k).1.autoSave = s.autoSave ∧
    (loadOrd cfg o s k).1.autoNotify = s.autoNotify ∧ (loadOrd cfg o s k).1.store = s.store ∧
    (loadOrd cfg o s k).1.wlog = s.wlog ∧ (loadOrd cfg o s k).1.alog = s.alog ++ [.loadPolicy] := by
  have hl : Coherent cfg (logged s) := coherent_congr cfg s _ h rfl rfl rfl
  rcases loadOrd_cases cfg o s k with ⟨_, hv⟩ | ⟨_, ⟨_, _, hv⟩ | ⟨new, _, hv⟩⟩
  · rw [hv]; exact ⟨rfl, hl, rfl, rfl, rfl, rfl, rfl, rfl⟩
  · rw [hv]; exact ⟨rfl, hl, rfl, rfl, rfl, rfl, rfl, rfl⟩
  · rw [hv] at hfail ⊢
    rcases loadCoreFrom_cases cfg (logged s) new with ⟨l, hc, _⟩ | ⟨e', l, hc, _, _, hold⟩
    · simp [hc, liftE_eq_error] at hfail
    · -- the rollback relinks from the old rules, which are well-sized in a coherent state
      obtain ⟨l', h1, _⟩ := rebuildAll_spec cfg s.pol h.g.sized h.g2.sized
      rw [hc]
      exact ⟨rfl, coherent_relinked cfg _ hl _ l' h1 rfl (hold l' h1) hl.auto, rfl, rfl, rfl, rfl, rfl, rfl⟩

theorem matcherO_congr (sh : OShape) (l1 l2 : Pol) (hg : ∀ x, x ∈ l1.g ↔ x ∈ l2.g) :
    matcherO sh l1 = matcherO sh l2 := by
  funext req pv
  unfold matcherO
  split <;> (split <;> simp only [hasLinkQ_congr _ _ hg])

/-- C11 for every failure kind. If the ordering `load_policy` raises — adapter failure after any prefix, a failure
    while ordering, or a failure while the role links are built from the ORDERED rules — the policy (and its order),
    the auto-build and auto-save flags and the adapter's store are untouched and every role query and every decision,
    under the allow-override effect and under the priority effects (where the order of the rules decides), is what it
    was before the call: the rollback relink gives the links there were before, as a set (C04's coherence invariant
    is the hypothesis that makes "rebuilt from the old policy" mean "as before"). -/
theorem failed_loadOrd_frame (cfg : Cfg) (o : OrdCfg) (s : St) (h : Coherent cfg s) (k : Option Nat) (e : LErr)
    (hfail : (loadOrd cfg o s k).2 = .error e) :
    let s' := (loadOrd cfg o s k).1
    s'.pol = s.pol ∧ s'.autoBuild = s.autoBuild ∧ s'.autoSave = s.autoSave ∧ s'.store = s.store ∧
    (∀ x, x ∈ s'.links.g ↔ x ∈ s.links.g) ∧ (∀ x, x ∈ s'.links.g2 ↔ x ∈ s.links.g2) ∧
    (∀ n1 n2 d, hasLinkQ s'.links.g n1 n2 d = hasLinkQ s.links.g n1 n2 d) ∧
    (∀ n1 n2 d, hasLinkQ s'.links.g2 n1 n2 d = hasLinkQ s.links.g2 n1 n2 d) ∧
    (∀ n d x, x ∈ getRoles s'.links.g n d ↔ x ∈ getRoles s.links.g n d) ∧
    (∀ n d x, x ∈ getUsers s'.links.g n d ↔ x ∈ getUsers s.links.g n d) ∧
    (∀ sh req, enforceQ sh s' req = enforceQ sh s req) ∧
    (∀ sh req, enforceQO sh s' req = enforceQO sh s req) := by
  obtain ⟨hpol, hcoh, hab, has, _, hst, _, _⟩ := failed_loadOrd_coherent cfg o s h k e hfail
  obtain ⟨hg, hg2⟩ := h.links_iff hcoh hpol
  obtain ⟨a1, a2, a3, a4, _, _, a7⟩ := answers_congr s _ (congrArg Pol.p hpol) hg hg2
  exact ⟨hpol, hab, has, hst, hg, hg2, a1, a2, a3, a4, a7,
    fun sh req => by rw [enforceQO, matcherO_congr sh _ _ hg, hpol]; rfl⟩

/-! ## success -/

/-- a reload that returns has installed the ordered store; the links are those built from it, or stay as they were
    when `auto_build_role_links` is off; nothing else changes but the adapter's log -/
theorem successful_loadOrd (cfg : Cfg) (o : OrdCfg) (s : St) (k : Option Nat) (r : Ret)
    (hok : (loadOrd cfg o s k).2 = .ok r) :
    ∃ new l, orderStore o s.store = .ok new ∧ (loadOrd cfg o s k).1 = { logged s with pol := new, links := l } ∧
      if s.autoBuild then rebuildAll cfg new = .ok l else l = s.links := by
  rcases loadOrd_cases cfg o s k with ⟨_, hv⟩ | ⟨_, ⟨_, _, hv⟩ | ⟨new, ho, hv⟩⟩
  · simp [hv] at hok
  · simp [hv] at hok
  · rw [hv] at hok ⊢
    rcases loadCoreFrom_cases cfg (logged s) new with ⟨l, hc, hl⟩ | ⟨_, _, hc, _⟩
    · exact ⟨new, l, ho, by rw [hc], hl⟩
    · simp [hc, liftE_eq_ok] at hok

/-- with auto-build on, a successful reload installs the ORDERED store and the links built from it, together -/
theorem successful_loadOrd_installs_ordered (cfg : Cfg) (o : OrdCfg) (s : St) (h : s.autoBuild = true)
    (k : Option Nat) (r : Ret) (hok : (loadOrd cfg o s k).2 = .ok r) :
    ∃ new, orderStore o s.store = .ok new ∧ (loadOrd cfg o s k).1.pol = new ∧
      rebuildAll cfg new = .ok (loadOrd cfg o s k).1.links ∧ (loadOrd cfg o s k).1.store = s.store := by
  obtain ⟨new, l, ho, hs, hl⟩ := successful_loadOrd cfg o s k r hok
  rw [hs]
  exact ⟨new, ho, rfl, by simpa [h] using hl, rfl⟩

theorem successful_loadOrd_no_autobuild (cfg : Cfg) (o : OrdCfg) (s : St) (h : s.autoBuild = false)
    (k : Option Nat) (r : Ret) (hok : (loadOrd cfg o s k).2 = .ok r) :
    ∃ new, orderStore o s.store = .ok new ∧ (loadOrd cfg o s k).1.pol = new ∧ (loadOrd cfg o s k).1.links = s.links := by
  obtain ⟨new, l, ho, hs, hl⟩ := successful_loadOrd cfg o s k r hok
  rw [hs]
  exact ⟨new, ho, rfl, by simpa [h] using hl⟩

/-! ## the ordering step is a STABLE sort, whatever the kind of key (numeric, string, hierarchy level)

`le` is a total preorder on rules ("key not greater").  Sorted + permutation + stable is the specification of Python's
`sorted(list, key=…)`; with `sortByPriorityE_spec` / `sortBySubjectE_eq_ok_iff` it says which list a successful reload
installs (the driver also compares the model's result with core `List.mergeSort` on the final store of every generated
history). -/

theorem insertByLe_eq_insertAfter (le : Rule → Rule → Bool) (r : Rule) (l : List Rule) :
    insertByLe le r l = insertAfter (le · r) r l := by
  induction l with
  | nil => rfl
  | cons x xs ih => simp [insertByLe, insertAfter, ih]

theorem sortByLe_eq (le : Rule → Rule → Bool) (l : List Rule) :
    sortByLe le l = l.foldl (fun acc r => insertAfter (le · r) r acc) [] := by
  unfold sortByLe; simp only [insertByLe_eq_insertAfter]

theorem sortByLe_perm (le : Rule → Rule → Bool) (l : List Rule) : (sortByLe le l).Perm l := by
  simpa [sortByLe_eq] using foldl_insertAfter_perm (fun r x => le x r) l []

structure TotalPre (le : Rule → Rule → Bool) : Prop where
  total : ∀ a b, le a b = false → le b a = true
  trans : ∀ a b c, le a b = true → le b c = true → le a c = true

def SortedLe (le : Rule → Rule → Bool) (l : List Rule) : Prop := l.Pairwise (fun a b => le a b = true)

/-- same key: not greater in both directions -/
def eqv (le : Rule → Rule → Bool) (c x : Rule) : Bool := le x c && le c x

/-- sorted, a permutation, and stable: each class of equal keys keeps the order it has in `l` -/
theorem sortByLe_spec (le : Rule → Rule → Bool) (hle : TotalPre le) (l : List Rule) :
    SortedLe le (sortByLe le l) ∧ (sortByLe le l).Perm l ∧
    ∀ c, (sortByLe le l).filter (eqv le c) = l.filter (eqv le c) := by
  rw [sortByLe_eq]
  obtain ⟨h1, h2, h3⟩ := foldl_insertAfter_spec le hle.total hle.trans l [] .nil
  refine ⟨h1, by simpa using h2, fun c => ?_⟩
  simpa using h3 (eqv le c) fun x y hx hy => by
    simp only [eqv, Bool.and_eq_true] at hx hy
    exact hle.trans x c y hx.1 hy.2

theorem natLe_totalPre (pi : Nat) : TotalPre (natLe pi) where
  total a b h := by simp only [natLe, decide_eq_false_iff_not, decide_eq_true_eq] at h ⊢; omega
  trans a b c h1 h2 := by simp only [natLe, decide_eq_true_eq] at h1 h2 ⊢; omega

theorem strLe_totalPre (pi : Nat) : TotalPre (strLe pi) where
  total a b h := by
    simp only [strLe, Bool.not_eq_false', Bool.not_eq_true', decide_eq_true_eq, decide_eq_false_iff_not] at h ⊢
    exact String.lt_asymm h
  trans a b c h1 h2 := by
    simp only [strLe, Bool.not_eq_true', decide_eq_false_iff_not] at h1 h2 ⊢
    exact String.not_lt.mpr (String.le_trans (String.not_lt.mp h1) (String.not_lt.mp h2))

theorem sortByKey_eq_sortByLe (key : Rule → Nat) (l : List Rule) :
    sortByKey key l = sortByLe (fun a b => decide (key a ≤ key b)) l := by
  rw [sortByLe_eq, sortByKey]; simp only [C07b.insertByKey_eq_insertAfter]

theorem keyLe_totalPre (key : Rule → Nat) : TotalPre (fun a b => decide (key a ≤ key b)) where
  total a b h := by simp only [decide_eq_false_iff_not, decide_eq_true_eq] at h ⊢; omega
  trans a b c h1 h2 := by simp only [decide_eq_true_eq] at h1 h2 ⊢; omega

/-! ## the priority sort: total on well-formed values, raising otherwise -/

theorem pkeyOf_cases (pi : Nat) (r : Rule) :
    (r.length ≤ pi ∧ pkeyOf pi r = .error .indexError) ∨
    (pi < r.length ∧ ∃ k, pkeyOf pi r = .ok k ∧ k.isInt = (prioOf pi r).isSome ∧ k.isStr = (prioOf pi r).isNone) := by
  unfold pkeyOf prioOf
  cases h : r[pi]? with
  | none => exact Or.inl ⟨List.getElem?_eq_none_iff.mp h, rfl⟩
  | some s =>
    refine Or.inr ⟨(List.getElem?_eq_some_iff.mp h).1, ?_⟩
    cases hp : prioOfString s <;> simp [hp, PKey.isInt, PKey.isStr]

theorem keysOf_spec (pi : Nat) (l : List Rule) :
    ((∃ r ∈ l, r.length ≤ pi) ∧ keysOf pi l = .error .indexError) ∨
    ((∀ r ∈ l, pi < r.length) ∧ ∃ ks, keysOf pi l = .ok ks ∧
      ks.all PKey.isInt = l.all (fun r => (prioOf pi r).isSome) ∧
      ks.all PKey.isStr = l.all (fun r => (prioOf pi r).isNone)) := by
  induction l with
  | nil => exact Or.inr ⟨nofun, [], rfl, rfl, rfl⟩
  | cons r rs ih =>
    unfold keysOf
    rcases pkeyOf_cases pi r with ⟨hl, hk⟩ | ⟨hl, k, hk, hi, hs⟩
    · exact Or.inl ⟨⟨r, by simp, hl⟩, by rw [hk]⟩
    · rw [hk]
      rcases ih with ⟨⟨x, hx, hxl⟩, he⟩ | ⟨hall, ks, hks, h1, h2⟩
      · exact Or.inl ⟨⟨x, by simp [hx], hxl⟩, by simp only [he]⟩
      · exact Or.inr ⟨List.forall_mem_cons.mpr ⟨hl, hall⟩, k :: ks, by simp only [hks],
          by simp only [List.all_cons, hi, h1], by simp only [List.all_cons, hs, h2]⟩

/-- the four cases of `sort_policies_by_priority`, each with the condition under which it is taken:
    a rule without priority field → `IndexError`; all priorities numeric → numeric sort; none numeric → sort by the
    strings; both kinds → `TypeError` -/
theorem sortByPriorityE_spec (pi : Nat) (l : List Rule) :
    ((∃ r ∈ l, r.length ≤ pi) ∧ sortByPriorityE pi l = .error .indexError) ∨
    ((∀ r ∈ l, pi < r.length) ∧ (∀ r ∈ l, (prioOf pi r).isSome) ∧
      sortByPriorityE pi l = .ok (sortByLe (natLe pi) l)) ∨
    ((∀ r ∈ l, pi < r.length) ∧ (∃ r ∈ l, prioOf pi r = none) ∧ (∀ r ∈ l, prioOf pi r = none) ∧
      sortByPriorityE pi l = .ok (sortByLe (strLe pi) l)) ∨
    ((∀ r ∈ l, pi < r.length) ∧ (∃ r ∈ l, prioOf pi r = none) ∧ (∃ r ∈ l, (prioOf pi r).isSome) ∧
      sortByPriorityE pi l = .error .typeError) := by
  unfold sortByPriorityE
  rcases keysOf_spec pi l with ⟨hx, he⟩ | ⟨hall, ks, hks, h1, h2⟩
  · exact Or.inl ⟨hx, by rw [he]⟩
  · right
    simp only [hks, h1, h2]
    cases hi : l.all (fun r => (prioOf pi r).isSome) with
    | true => exact Or.inl ⟨hall, List.all_eq_true.mp hi, rfl⟩
    | false =>
      obtain ⟨r, hr, hn⟩ := List.all_eq_false.mp hi
      have hex : ∃ r ∈ l, prioOf pi r = none := ⟨r, hr, Option.not_isSome_iff_eq_none.mp hn⟩
      cases hs : l.all (fun r => (prioOf pi r).isNone) with
      | true =>
        exact Or.inr (Or.inl ⟨hall, hex, fun r hr => Option.isNone_iff_eq_none.mp (List.all_eq_true.mp hs r hr), rfl⟩)
      | false =>
        obtain ⟨r', hr', hn'⟩ := List.all_eq_false.mp hs
        exact Or.inr (Or.inr ⟨hall, hex, ⟨r', hr', Option.isSome_iff_ne_none.mpr fun h => hn' (by rw [h]; rfl)⟩, rfl⟩)

theorem sortByPriorityE_indexError_iff (pi : Nat) (l : List Rule) :
    sortByPriorityE pi l = .error .indexError ↔ ∃ r ∈ l, r.length ≤ pi := by
  rcases sortByPriorityE_spec pi l with ⟨hx, he⟩ | ⟨hall, _, he⟩ | ⟨hall, _, _, he⟩ | ⟨hall, _, _, he⟩ <;> rw [he]
  · exact ⟨fun _ => hx, fun _ => rfl⟩
  all_goals exact ⟨nofun, fun ⟨r, hr, hl⟩ => absurd (hall r hr) (Nat.not_lt.mpr hl)⟩

theorem sortByPriorityE_typeError_iff (pi : Nat) (l : List Rule) :
    sortByPriorityE pi l = .error .typeError ↔
      (∀ r ∈ l, pi < r.length) ∧ (∃ r ∈ l, prioOf pi r = none) ∧ (∃ r ∈ l, (prioOf pi r).isSome) := by
  rcases sortByPriorityE_spec pi l with
    ⟨⟨x, hx, hxl⟩, he⟩ | ⟨hall, hsome, he⟩ | ⟨hall, _, hnone, he⟩ | ⟨hall, h1, h2, he⟩ <;> rw [he]
  · exact ⟨nofun, fun ⟨h, _⟩ => absurd (h x hx) (Nat.not_lt.mpr hxl)⟩
  · exact ⟨nofun, fun ⟨_, ⟨r, hr, hn⟩, _⟩ => by simpa [hn] using hsome r hr⟩
  · exact ⟨nofun, fun ⟨_, _, r, hr, hs⟩ => by simp [hnone r hr] at hs⟩
  · exact ⟨fun _ => ⟨hall, h1, h2⟩, fun _ => rfl⟩

/-- whatever a successful priority sort returns is the stable sort of the delivered rules, by numeric or by string
    keys: ascending, a permutation, same-priority rules in delivery order -/
theorem sortByPriorityE_stable_sort (pi : Nat) (l l' : List Rule) (h : sortByPriorityE pi l = .ok l') :
    ∃ le, TotalPre le ∧ (le = natLe pi ∨ le = strLe pi) ∧ SortedLe le l' ∧ l'.Perm l ∧
      ∀ c, l'.filter (eqv le c) = l.filter (eqv le c) := by
  -- of the four cases the first and the last raise, against `h`; the numeric and the string sort remain
  rcases sortByPriorityE_spec pi l with ⟨_, he⟩ | ⟨_, _, he⟩ | ⟨_, _, _, he⟩ | ⟨_, _, _, he⟩ <;> rw [he] at h <;> cases h
  · exact ⟨_, natLe_totalPre pi, Or.inl rfl, sortByLe_spec _ (natLe_totalPre pi) l⟩
  · exact ⟨_, strLe_totalPre pi, Or.inr rfl, sortByLe_spec _ (strLe_totalPre pi) l⟩

/-! ### on numeric priorities the total sort IS C07's load sort (ascending, stable) -/

theorem sortByLe_natLe_eq (pi : Nat) (l : List Rule) (hn : C07.AllNumeric pi l) :
    sortByLe (natLe pi) l = sortByPriority pi l := by
  rw [sortByLe_eq, C07.sortByPriority_eq pi l hn]; rfl

/-- numeric priorities: the ordering step succeeds and C07's `load_sorted` / `load_stable` apply to its result -/
theorem sortByPriorityE_numeric (pi : Nat) (l : List Rule) (hn : C07.AllNumeric pi l) :
    ∃ l', sortByPriorityE pi l = .ok l' ∧ C07.Sorted pi l' ∧ l'.Perm l ∧
      ∀ q, l'.filter (fun x => C07.key pi x == q) = l.filter (fun x => C07.key pi x == q) := by
  refine ⟨sortByPriority pi l, ?_, (C07.load_sorted pi l hn).1, (C07.load_sorted pi l hn).2, C07.load_stable pi l hn⟩
  rcases sortByPriorityE_spec pi l with
    ⟨⟨r, hr, hl⟩, _⟩ | ⟨_, _, he⟩ | ⟨_, ⟨r, hr, hnone⟩, _⟩ | ⟨_, ⟨r, hr, hnone⟩, _⟩
  · obtain ⟨p, hp⟩ := hn r hr
    simp [prioOf, List.getElem?_eq_none hl] at hp
  · rw [he, sortByLe_natLe_eq pi l hn]
  all_goals obtain ⟨p, hp⟩ := hn r hr; rw [hnone] at hp; cases hp

/-! ## the subject-hierarchy sort -/

theorem edgeOf_none_iff (r : Rule) : edgeOf r = none ↔ r.length < 2 := by
  match r with
  | [] => simp [edgeOf]
  | [_] => simp [edgeOf]
  | [_, _] => simp [edgeOf]
  | _ :: _ :: _ :: _ => simp [edgeOf]

theorem subjEdges_eq_error_iff (g : List Rule) (e : OErr) :
    subjEdges g = .error e ↔ e = .gShort ∧ ∃ r ∈ g, r.length < 2 := by
  induction g with
  | nil => simp [subjEdges]
  | cons r rs ih =>
    rw [subjEdges]
    cases hr : edgeOf r with
    | none => simp [(edgeOf_none_iff r).mp hr, eq_comm]
    | some x =>
      have : ¬ r.length < 2 := fun h => by rw [(edgeOf_none_iff r).mpr h] at hr; cases hr
      cases hs : subjEdges rs <;> simp [this, ← ih, hs]

/-- the subject-hierarchy sort returns exactly when the edge loop and `hierarchyMap` return (the level map `m`:
    Props/C07b `hierarchy_levels` says what the levels are) and every permission rule has the fields the key reads;
    then it is `sortByKey` by level (C07b `lower_level_first`) -/
theorem sortBySubjectE_eq_ok_iff (d : Option Nat) (g p l' : List Rule) :
    sortBySubjectE d g p = .ok l' ↔ ∃ es m, subjEdges g = .ok es ∧ hierarchyMap es = .ok m ∧
      subjKeysOk d m p = true ∧ sortByKey (subjKey d m) p = l' := by
  unfold sortBySubjectE
  cases subjEdges g with
  | error e => simp
  | ok es =>
    cases hm : hierarchyMap es with
    | error e => simp [hm]
    | ok m => cases hk : subjKeysOk d m p <;> simp [hk, hm]

theorem sortBySubjectE_ok (d : Option Nat) (g p l' : List Rule) (h : sortBySubjectE d g p = .ok l') :
    (∀ r ∈ g, 2 ≤ r.length) ∧ ∃ es m, subjEdges g = .ok es ∧ hierarchyMap es = .ok m ∧
      (∀ r ∈ p, ∃ k, subjKeyOf d m r = .ok k) ∧ l' = sortByKey (subjKey d m) p ∧
      l'.Pairwise (fun a b => subjKey d m a ≤ subjKey d m b) ∧ l'.Perm p := by
  obtain ⟨es, m, he, hm, hk, rfl⟩ := (sortBySubjectE_eq_ok_iff d g p l').mp h
  refine ⟨fun r hr => Nat.not_lt.mp fun hlt => ?_, es, m, he, hm, fun r hr => ?_, rfl, C07b.sortByKey_spec _ _⟩
  · have := (subjEdges_eq_error_iff g .gShort).mpr ⟨rfl, r, hr, hlt⟩
    rw [he] at this; cases this
  · have := List.all_eq_true.mp hk r hr
    split at this
    · exact ⟨_, ‹_›⟩
    · cases this

/-- the three ways `sort_policies_by_subject_hierarchy` raises, each with the condition under which it does -/
theorem sortBySubjectE_eq_error_iff (d : Option Nat) (g p : List Rule) (e : OErr) :
    sortBySubjectE d g p = .error e ↔ subjEdges g = .error e ∨ ∃ es, subjEdges g = .ok es ∧
      ((hierarchyMap es = .error .cycle ∧ e = .cycle) ∨
       ∃ m, hierarchyMap es = .ok m ∧ subjKeysOk d m p = false ∧ e = .indexError) := by
  unfold sortBySubjectE
  cases subjEdges g with
  | error e' => simp
  | ok es =>
    cases hm : hierarchyMap es with
    | error e' =>
      cases e' with
      | cycle => simp [hm, ofHErr, eq_comm (a := OErr.cycle)]
      | fuel => exact absurd hm (C07b.hierarchyMap_total es)
    | ok m => cases hk : subjKeysOk d m p <;> simp [hk, hm, eq_comm (a := OErr.indexError)]

/-- "policy g expect 2 more params" exactly when a delivered grouping rule has fewer than two fields -/
theorem sortBySubjectE_gShort_iff (d : Option Nat) (g p : List Rule) :
    sortBySubjectE d g p = .error .gShort ↔ ∃ r ∈ g, r.length < 2 := by
  simp [sortBySubjectE_eq_error_iff, subjEdges_eq_error_iff]

/-- "cycle dependency …" exactly when the grouping rules are long enough and their hierarchy is cyclic -/
theorem sortBySubjectE_cycle_iff (d : Option Nat) (g p : List Rule) :
    sortBySubjectE d g p = .error .cycle ↔ ∃ es, subjEdges g = .ok es ∧ hierarchyMap es = .error .cycle := by
  simp [sortBySubjectE_eq_error_iff, subjEdges_eq_error_iff]

/-- a successful subject-hierarchy sort is stable: rules of subjects on the same level keep their delivery order
    (sorted and a permutation: `sortBySubjectE_ok`) -/
theorem sortBySubjectE_stable_sort (d : Option Nat) (g p l' : List Rule) (h : sortBySubjectE d g p = .ok l') :
    ∃ m, ∀ c, l'.filter (eqv (fun a b => decide (subjKey d m a ≤ subjKey d m b)) c) =
              p.filter (eqv (fun a b => decide (subjKey d m a ≤ subjKey d m b)) c) := by
  obtain ⟨_, m, _, _, _, rfl⟩ := (sortBySubjectE_eq_ok_iff d g p l').mp h
  refine ⟨m, fun c => ?_⟩
  rw [sortByKey_eq_sortByLe]
  exact (sortByLe_spec _ (keyLe_totalPre _) p).2.2 c

/-! ## what the ordering step does to the delivered rules -/

theorem orderStore_eq_ok_iff (o : OrdCfg) (st new : Pol) :
    orderStore o st = .ok new ↔
      ∃ p1 p2, subjStage o st = .ok p1 ∧ prioStage o p1 = .ok p2 ∧ { st with p := p2 } = new := by
  unfold orderStore
  cases subjStage o st with
  | error e => simp
  | ok p1 => cases h2 : prioStage o p1 <;> simp [h2]

theorem orderStore_eq_error_iff (o : OrdCfg) (st : Pol) (e : OErr) :
    orderStore o st = .error e ↔
      subjStage o st = .error e ∨ ∃ p1, subjStage o st = .ok p1 ∧ prioStage o p1 = .error e := by
  unfold orderStore
  cases subjStage o st with
  | error e => simp
  | ok p1 => cases h2 : prioStage o p1 <;> simp [h2]

theorem subjStage_perm {o : OrdCfg} {st : Pol} {p1 : List Rule} (h : subjStage o st = .ok p1) : p1.Perm st.p := by
  unfold subjStage at h
  split at h
  · obtain ⟨_, _, _, _, _, rfl⟩ := (sortBySubjectE_eq_ok_iff ..).mp h
    exact (C07b.sortByKey_spec _ _).2
  · cases h; exact .refl _

theorem prioStage_perm {o : OrdCfg} {p1 p2 : List Rule} (h : prioStage o p1 = .ok p2) : p2.Perm p1 := by
  unfold prioStage at h
  split at h
  · cases h; exact .refl _
  · obtain ⟨_, _, _, _, hperm, _⟩ := sortByPriorityE_stable_sort _ _ _ h
    exact hperm

/-- a successful ordering step permutes the permission rules and leaves the grouping rules alone -/
theorem orderStore_perm (o : OrdCfg) (st new : Pol) (h : orderStore o st = .ok new) :
    new.p.Perm st.p ∧ new.g = st.g ∧ new.g2 = st.g2 := by
  obtain ⟨p1, p2, h1, h2, rfl⟩ := (orderStore_eq_ok_iff o st new).mp h
  exact ⟨(prioStage_perm h2).trans (subjStage_perm h1), rfl, rfl⟩

theorem orderStore_no_fuel (o : OrdCfg) (st : Pol) : orderStore o st ≠ .error .fuel := by
  intro h
  rcases (orderStore_eq_error_iff o st .fuel).mp h with h1 | ⟨p1, _, h2⟩
  · unfold subjStage at h1
    split at h1
    · simp [sortBySubjectE_eq_error_iff, subjEdges_eq_error_iff] at h1
    · cases h1
  · unfold prioStage at h2
    split at h2
    · cases h2
    · rename_i pi _
      rcases sortByPriorityE_spec pi p1 with ⟨_, he⟩ | ⟨_, _, he⟩ | ⟨_, _, _, he⟩ | ⟨_, _, _, he⟩ <;>
        rw [he] at h2 <;> cases h2

/-! ## the invariant survives ordering reloads: arbitrary further use -/

theorem incLinks_ok_sized (count : Nat) (add : Bool) (pol : List Rule) (rs store res : List Rule)
    (h : incLinks count add pol store rs = .ok res) : Sized count rs := by
  induction rs generalizing store with
  | nil => exact nofun
  | cons r rs ih =>
    unfold incLinks at h
    split at h
    · cases h
    · exact List.forall_mem_cons.mpr ⟨by omega, ih _ h⟩

theorem rebuildAll_ok_sized (cfg : Cfg) (pol l : Pol) (h : rebuildAll cfg pol = .ok l) :
    Sized cfg.gCount pol.g ∧ Sized cfg.g2Count pol.g2 := by
  unfold rebuildAll at h
  cases hg : buildLinks cfg.gCount pol.g with
  | error e => rw [hg] at h; cases h
  | ok lg =>
    cases hg2 : buildLinks cfg.g2Count pol.g2 with
    | error e => rw [hg, hg2] at h; cases h
    | ok lg2 => exact ⟨incLinks_ok_sized _ _ _ _ _ _ hg, incLinks_ok_sized _ _ _ _ _ _ hg2⟩

/-- what an ordering reload needs of the adapter's store for the invariant: no section delivers a rule twice.  NOTHING
    is asked about sizes, priorities or the hierarchy: on a store with short grouping rules, unorderable priorities
    or a cyclic hierarchy the reload fails, and a failed reload keeps the invariant. -/
structure StoreNodup (st : Pol) : Prop where
  p : st.p.Nodup
  g : st.g.Nodup
  g2 : st.g2.Nodup

def OpOKO (cfg : Cfg) (s : St) : OpO → Prop
  | .base op => OpOK cfg s op
  | .loadOrd _ => StoreNodup s.store

theorem coherent_loadOrd (cfg : Cfg) (o : OrdCfg) (s : St) (h : Coherent cfg s) (k : Option Nat)
    (hok : StoreNodup s.store) : Coherent cfg (loadOrd cfg o s k).1 := by
  cases hr : (loadOrd cfg o s k).2 with
  | error e => exact (failed_loadOrd_coherent cfg o s h k e hr).2.1
  | ok r =>
    -- the installed rules are the delivered ones reordered, and their links were built: `coherent_init`
    obtain ⟨new, l, ho, hs, hl⟩ := successful_loadOrd cfg o s k r hr
    rw [if_pos h.auto] at hl
    obtain ⟨hperm, hg, hg2⟩ := orderStore_perm o s.store new ho
    obtain ⟨hsg, hsg2⟩ := rebuildAll_ok_sized cfg new l hl
    obtain ⟨l', h1, hc⟩ := coherent_init cfg new ⟨hperm.nodup_iff.mpr hok.p, hg ▸ hok.g, hg2 ▸ hok.g2, hsg, hsg2⟩
    rw [hl] at h1; cases h1
    rw [hs]
    exact coherent_congr cfg _ _ hc rfl rfl h.auto

theorem coherent_stepO (cfg : Cfg) (o : OrdCfg) (s : St) (op : OpO) (h : Coherent cfg s) (hop : OpOKO cfg s op) :
    Coherent cfg (stepO cfg o s op).1 := by
  cases op with
  | base op => exact coherent_step cfg s op h hop
  | loadOrd k => exact coherent_loadOrd cfg o s h k hop

def RunOKO (cfg : Cfg) (o : OrdCfg) : St → List OpO → Prop
  | _, [] => True
  | s, op :: ops => OpOKO cfg s op ∧ RunOKO cfg o (stepO cfg o s op).1 ops

/-- Coherence — the hypothesis of the frame theorem — holds after every admissible history of management calls and
    ordering reloads, successful or failed: a failed reload can be followed by arbitrary further use, and by further
    failed reloads, and each of them is again a frame. -/
theorem coherent_runO (cfg : Cfg) (o : OrdCfg) (ops : List OpO) (s : St) (h : Coherent cfg s)
    (hok : RunOKO cfg o s ops) : Coherent cfg (runO cfg o s ops) := by
  induction ops generalizing s with
  | nil => exact h
  | cons op ops ih =>
    simp only [runO, List.foldl_cons]
    exact ih _ (coherent_stepO cfg o s op h hok.1) hok.2

/-- a failed ordering reload at ANY point of an admissible history is a frame -/
theorem failed_loadOrd_frame_anywhere (cfg : Cfg) (o : OrdCfg) (ops : List OpO) (s : St) (h : Coherent cfg s)
    (hok : RunOKO cfg o s ops) (k : Option Nat) (e : LErr)
    (hfail : (loadOrd cfg o (runO cfg o s ops) k).2 = .error e) :
    (loadOrd cfg o (runO cfg o s ops) k).1.pol = (runO cfg o s ops).pol ∧
    (∀ x, x ∈ (loadOrd cfg o (runO cfg o s ops) k).1.links.g ↔ x ∈ (runO cfg o s ops).links.g) ∧
    (∀ sh req, enforceQO sh (loadOrd cfg o (runO cfg o s ops) k).1 req = enforceQO sh (runO cfg o s ops) req) := by
  obtain ⟨hpol, _, _, _, hg, _, _, _, _, _, _, hq⟩ :=
    failed_loadOrd_frame cfg o _ (coherent_runO cfg o ops s h hok) k e hfail
  exact ⟨hpol, hg, hq⟩

/-- the explicit-priority RBAC model of `examples/priority_model_explicit.conf` -/
def exCfg : Cfg := { gCount := 2, hasAdapter := true }
def exPrio : OrdCfg := { prioIdx := some 0 }
def exSubj : OrdCfg := { subjPrio := true }
def exPol : Pol :=
  { p := [["1", "alice", "data1", "read", "allow"], ["10", "admin", "data1", "read", "deny"]], g := [["alice", "admin"]] }
def exS (store : Pol) : St := { pol := exPol, links := { g := [["alice", "admin"]] }, store := store }

/-- the example state satisfies the hypothesis of the frame theorems -/
theorem exS_coherent (store : Pol) : Coherent exCfg (exS store) := by
  have hok : PolOK exCfg exPol :=
    ⟨by decide, by decide, by decide, by intro r hr; simp [exPol] at hr; subst hr; decide, by intro r hr; simp [exPol] at hr⟩
  obtain ⟨l, h1, h2⟩ := coherent_init exCfg exPol hok
  have hl : l = { g := [["alice", "admin"]] } := by
    have : rebuildAll exCfg exPol = .ok { g := [["alice", "admin"]] } := by decide
    rw [this] at h1; cases h1; rfl
  exact coherent_congr exCfg _ _ h2 rfl hl.symm rfl

/-- a store that fails to order: numeric and non-numeric priorities -/
example :
    let st : Pol := { p := [["2", "bob", "data2", "read", "allow"], ["urgent", "alice", "data1", "read", "deny"]], g := [["bob", "admin"]] }
    (loadOrd exCfg exPrio (exS st) none).2 = .error (.ord .typeError) ∧
    (loadOrd exCfg exPrio (exS st) none).1 = logged (exS st) := by
  decide +kernel

/-- a rule without priority field, wherever it sits -/
example :
    (loadOrd exCfg exPrio (exS { p := [["2", "bob", "data2", "read", "allow"], []] }) none).2 = .error (.ord .indexError) ∧
    (loadOrd exCfg exPrio (exS { p := [[], ["2", "bob", "data2", "read", "allow"]] }) none).2 = .error (.ord .indexError) := by
  decide

/-- a cyclic subject hierarchy; a grouping rule the hierarchy cannot use -/
example :
    (loadOrd exCfg exSubj (exS { p := [["alice", "data1", "read", "allow"]], g := [["alice", "admin"], ["admin", "alice"]] }) none).2
      = .error (.ord .cycle) ∧
    (loadOrd exCfg exSubj (exS { p := [["alice", "data1", "read", "allow"]], g := [["alice", "admin"], ["bob"]] }) none).2
      = .error (.ord .gShort) := by
  decide

/-- a store that orders: the reload installs the rules in ascending priority, ties in delivery order, together with
    the links of the delivered grouping rules -/
example :
    let st : Pol := { p := [["10", "root", "data2", "read", "allow"], ["2", "bob", "data2", "read", "deny"],
                            ["10", "admin", "data1", "read", "deny"], ["1", "alice", "data1", "read", "allow"]],
                      g := [["bob", "admin"]] }
    (loadOrd exCfg exPrio (exS st) none).2 = .ok .unit ∧
    (loadOrd exCfg exPrio (exS st) none).1.pol.p =
      [["1", "alice", "data1", "read", "allow"], ["2", "bob", "data2", "read", "deny"],
       ["10", "root", "data2", "read", "allow"], ["10", "admin", "data1", "read", "deny"]] ∧
    (loadOrd exCfg exPrio (exS st) none).1.links.g = [["bob", "admin"]] := by
  decide +kernel

/-- all priorities non-numeric: the rules are ordered as strings, nothing raises -/
example :
    sortByPriorityE 0 [["low", "a"], ["high", "b"], ["mid", "c"], ["high", "d"]] =
      .ok [["high", "b"], ["high", "d"], ["low", "a"], ["mid", "c"]] := by
  decide +kernel

/-- subject priority: the rules of a subject come before those of the roles it inherits from -/
example :
    (loadOrd exCfg exSubj (exS { p := [["root", "data1", "read", "deny"], ["admin", "data1", "read", "deny"], ["alice", "data1", "read", "allow"]],
                                 g := [["alice", "admin"], ["admin", "root"]] }) none).1.pol.p =
      [["alice", "data1", "read", "allow"], ["admin", "data1", "read", "deny"], ["root", "data1", "read", "deny"]] := by
  decide +kernel

/-- ordering succeeds, linking fails: the rollback relink restores the links -/
example :
    let st : Pol := { p := [["2", "bob", "data2", "read", "allow"], ["1", "bob", "data1", "read", "allow"]], g := [["bob"]] }
    (loadOrd exCfg exPrio (exS st) none).2 = .error (.enf .shortGroupingRule) ∧
    (loadOrd exCfg exPrio (exS st) none).1.links.g = [["alice", "admin"]] ∧
    (loadOrd exCfg exPrio (exS st) none).1.pol = (exS st).pol := by
  decide +kernel

/-- the order is observable: under the priority effect the same rules in another order decide differently -/
example :
    enforceQO .prio { pol := { p := [["1", "alice", "data1", "read", "allow"], ["2", "alice", "data1", "read", "deny"]] } } ["alice", "data1", "read"] = .ok true ∧
    enforceQO .prio { pol := { p := [["2", "alice", "data1", "read", "deny"], ["1", "alice", "data1", "read", "allow"]] } } ["alice", "data1", "read"] = .ok false := by
  decide +kernel

/-- a history with a failed ordering reload in the middle: the later call finds policy and links in step -/
example :
    let ops : List OpO := [.base (.add .g ["bob", "admin"]), .loadOrd none, .base (.remove .g ["alice", "admin"])]
    let st : Pol := { p := [["x", "bob", "data2", "read", "allow"], ["1", "bob", "data1", "read", "allow"]] }
    (stepO exCfg exPrio (stepO exCfg exPrio (exS st) ops[0]).1 ops[1]).2 = .error (.ord .typeError) ∧
    (runO exCfg exPrio (exS st) ops).pol.g = [["bob", "admin"]] ∧ (runO exCfg exPrio (exS st) ops).links.g = [["bob", "admin"]] := by
  decide +kernel

/-- domains (`examples/subject_priority_model_with_domain.conf`): the reverse assignment in the SAME domain is a
    cycle, in another domain it is not; a rule without domain field raises `IndexError`; the ordered rules put the
    subject before the role it inherits from in that domain -/
example :
    let o := OShape.subjDom.ordCfg
    let p := [["admin", "data1", "d1", "read", "deny"], ["alice", "data1", "d1", "read", "allow"]]
    orderStore o { p := p, g := [["alice", "admin", "d1"], ["admin", "alice", "d1"]] } = .error .cycle ∧
    (orderStore o { p := p, g := [["alice", "admin", "d1"], ["admin", "alice", "d2"]] }).toOption.map (·.p) =
      some [["alice", "data1", "d1", "read", "allow"], ["admin", "data1", "d1", "read", "deny"]] ∧
    orderStore o { p := p ++ [["alice", "data1"]], g := [["alice", "admin", "d1"]] } = .error .indexError := by
  decide +kernel

/-- string keys, with a tie -/
example : ∃ l', sortByPriorityE 0 [["b", "x"], ["a", "y"], ["b", "z"]] = .ok l' ∧ l' = [["a", "y"], ["b", "x"], ["b", "z"]] :=
  ⟨_, by decide +kernel, rfl⟩

/-- `RunOKO` accepts ill-formed stores: the first reload of this admissible history fails on a short grouping rule -/
example :
    let st1 : Pol := { p := [["1", "bob", "data1", "read", "allow"]], g := [["bob"]] }
    RunOKO exCfg exPrio (exS st1) [.loadOrd none, .base .savePolicy, .loadOrd none] ∧
    (stepO exCfg exPrio (exS st1) (.loadOrd none)).2 = .error (.enf .shortGroupingRule) := by
  refine ⟨⟨⟨by decide, by decide, by decide⟩, trivial, ⟨by decide, by decide, by decide⟩, trivial⟩, by decide⟩

end Casbin.Enf.C11o
