import CasbinV.Props.C10
import CasbinV.Proofs.EvalVector
/-!
# C12 — filtered loading loads exactly the filtered subset, never overwrites the store
-/
namespace Casbin.C12
open Casbin.Py Casbin.Persist Casbin.Persist.Spec Casbin.C10

theorem blank_eq (v : Str) : blank v = (strip v).isEmpty := by
  cases v
  · rfl
  · simp [blank]

/-- the adapter's shortcut for `G`: an empty or all-blank filter keeps every rule, however short -/
theorem matchesFilter_all_blank (flt : List Str) (r : Rule)
    (h : (flt.isEmpty || flt.all fun x => (strip x).isEmpty) = true) : matchesFilter flt r = true := by
  induction flt generalizing r with
  | nil => rfl
  | cons v vs ih =>
    simp only [List.isEmpty_cons, Bool.false_or, List.all_cons, Bool.and_eq_true] at h
    have := fun r => ih r (by simp [h.2])
    cases r <;> simp [matchesFilter, blank_eq, h.1, this]

theorem filterWordsAux_eq (flt : List Str) (ws : List Str) :
    filterWordsAux flt ws = !matchesFilter flt (ws.map strip) := by
  fun_induction filterWordsAux flt ws <;> simp_all [matchesFilter, bne]

/-- `filter_words` strips fields that `split_line` has already stripped -/
theorem splitLine_stripped (l : Str) (p : List Str) (h : splitLine l = .ok p) : p.map strip = p := by
  unfold splitLine at h
  split at h <;> simp at h
  subst h
  simp [Py.strip_strip]

/-- `filter_line` on a tokenized line: the first token selects the filter, the others are matched against it (a
    blank first token is no type name: nothing is filtered) -/
theorem filterLine_of_splitLine {l p0 : Str} {ps : List Str} (f : Filter)
    (hs : (l.isEmpty || l.take 1 == ['#']) = false) (h : splitLine l = .ok (p0 :: ps)) :
    filterLine l f = .ok (!keeps f p0 ps) := by
  have hstr := splitLine_stripped l _ h
  simp only [List.map_cons, List.cons.injEq] at hstr
  have hfw : ∀ flt, filterWords (p0 :: ps) flt = !matchesFilter flt ps := fun flt => by
    rw [filterWords, List.drop_one, List.tail_cons, filterWordsAux_eq, hstr.2]
  -- the shortcut for an all-blank `G` answers what `filter_words` would
  have hG : (if (f.G.isEmpty || f.G.all fun x => (strip x).isEmpty) = true then Except.ok (ε := Err) false
      else .ok (!matchesFilter f.G ps)) = .ok (!matchesFilter f.G ps) := by
    split
    · rw [matchesFilter_all_blank f.G ps ‹_›]; rfl
    · rfl
  simp only [filterLine, keeps, hs, h, hstr.1, hfw, hG, Bool.false_eq_true, ↓reduceIte]
  by_cases hg : p0 = ['g']
  · subst hg; rfl
  · by_cases hp : p0 = ['p']
    · subst hp; rfl
    · simp [hg, hp, matchesFilter]

/-- C12: on every line the loader turns into a rule, `filter_line` answers "skip" exactly when the property's
    predicate `keeps` says no (`p` by `P`, `g` by `G`, other types never) -/
theorem filterLine_eq (l : Str) (f : Filter) (k : Str) (r : Rule) (h : parseLine l = .ok (some (k, r))) :
    filterLine l f = .ok (!keeps f k r) :=
  filterLine_of_splitLine f (splitLine_of_parseLine h).1 (splitLine_of_parseLine h).2.1

/-! ### F20: `filter_line` with a naive comma split, `filter_words` with a length guard -/

/-- `filter_words` with the length guard: a line shorter than the filter is skipped whatever the extra positions hold -/
def filterWordsOld (line : List Str) (flt : List Str) : Bool :=
  if line.length < flt.length + 1 then true
  else (flt.zip (line.drop 1)).any fun (v, w) => !blank v && strip v != strip w

/-- `filter_line` with the naive split: the line is cut at every comma -/
def filterLineOld (line : Str) (f : Filter) : Bool :=
  let p := splitOn ',' line
  match p with
  | [] => true
  | p0 :: _ =>
    if strip p0 == ['g'] then
      if f.G.isEmpty || f.G.all (fun x => (strip x).isEmpty) then false
      else filterWordsOld p f.G
    else if strip p0 == ['p'] then filterWordsOld p f.P
    else filterWordsOld p []

/-- Boolean form of `filterLine l f = .ok b` -/
def filtersTo (l : Str) (f : Filter) (b : Bool) : Bool :=
  match filterLine l f with
  | .ok x => x == b
  | .error _ => false

/-- F20, a bracketed comma before a filtered position: the rule's second field is `c`, the filter asks for `c`;
    `filterLineOld` skips the line, `filterLine` keeps it -/
theorem filterLine_naive_split_witness :
    parsesTo "p, f(a, b), c".toList (['p'], ["f(a, b)".toList, ['c']]) = true ∧
    keeps { P := [[], ['c']], G := [] } ['p'] ["f(a, b)".toList, ['c']] = true ∧
    filterLineOld "p, f(a, b), c".toList { P := [[], ['c']], G := [] } = true ∧
    filtersTo "p, f(a, b), c".toList { P := [[], ['c']], G := [] } false = true := by
  eval_vector

/-- F20, a filter longer than the rule whose extra position is blank: every non-blank value matches; `filterLineOld`
    skips the line, `filterLine` keeps it -/
theorem filterLine_long_filter_witness :
    parsesTo "p, a, b".toList (['p'], [['a'], ['b']]) = true ∧
    keeps { P := [['a'], [], []], G := [['x']] } ['p'] [['a'], ['b']] = true ∧
    filterLineOld "p, a, b".toList { P := [['a'], [], []], G := [['x']] } = true ∧
    filtersTo "p, a, b".toList { P := [['a'], [], []], G := [['x']] } false = true := by
  eval_vector

/-- F20, a leading comma (dropped by the loader): `filterLineOld` does not recognise the `p` rule and lets it through
    whatever the filter says; `filterLine` skips it -/
theorem filterLine_leading_comma_witness :
    parsesTo ", p, a".toList (['p'], [['a']]) = true ∧
    keeps { P := [['b']], G := [] } ['p'] [['a']] = false ∧
    filterLineOld ", p, a".toList { P := [['b']], G := [] } = false ∧
    filtersTo ", p, a".toList { P := [['b']], G := [] } true = true := by
  eval_vector

/-! ## filtered loading of a whole file -/

/-- one step of `load_filtered_policy_file`, for every line; where the loader raises, the filter raises the same
    exception or lets the loader raise it -/
theorem filtered_step (f : Filter) (l : Str) (m : Store) :
    (if l.isEmpty then Except.ok m
      else match filterLine l f with
        | .error e => .error e
        | .ok true => .ok m
        | .ok false => loadPolicyLine l m) = lineStep (keeps f) l m := by
  simp only [loadPolicyLine_eq_lineStep, lineStep]
  cases hb : (l.isEmpty || l.take 1 == ['#']) with
  | true =>
    -- empty line or comment: both sides leave the model alone
    have hfl : filterLine l f = .ok false := by simp [filterLine, hb]
    simp [hfl, parseLine_skip hb]
  | false =>
    have hne : l.isEmpty = false := (Bool.or_eq_false_iff.mp hb).1
    rw [parseLine_eq_splitLine l hb]
    simp only [hne, Bool.false_eq_true, ↓reduceIte]
    rcases hs : splitLine l with e | _ | ⟨p0, ps⟩
    · simp [filterLine, hb, hs]
    · obtain ⟨c, s, rfl⟩ := List.exists_cons_of_ne_nil (by simpa using hne : l ≠ [])
      exact absurd hs (splitLine_ne_nil c s)
    · -- a blank type name is not `p`, not `g`: the line is kept and the loader raises
      rw [filterLine_of_splitLine f hb hs]
      cases p0 with
      | nil => simp [keeps]
      | cons c p0 => cases hk : keeps f (c :: p0) ps <;> simp [hk]

theorem rulesOf_filter (keep : Str → Rule → Bool) (kr : List (Str × Rule)) (key : Str) :
    rulesOf (kr.filter fun p => keep p.1 p.2) key = (rulesOf kr key).filter (keep key) := by
  simp only [rulesOf, List.filter_map, List.filter_filter]
  congr 1
  exact List.filter_congr fun p _ => by cases hk : p.1 == key <;> simp_all

/-- C12, for every file, filter and memory: `load_filtered_policy_file` appends to every policy type exactly those
    rules of the file, in file order, that the filter keeps (`p` rules whose leading fields equal every non-blank value
    of `P`, `g` rules likewise with `G`, all rules of other types).  When a line makes the loader raise, this holds for
    the lines before it and the exception is that line's, as for the full load. -/
theorem filtered_exact (text : Str) (f : Filter) (m : Store) :
    loadFilteredFile text f m =
      (extend m ((parsedPairs (goodPrefix (textLines true text))).filter fun p => keeps f p.1 p.2),
       firstError (textLines true text)) := by
  have hfun : loadFilteredFile text f m =
      loadLines (fun l st => lineStep (keeps f) (strip l) st) (splitOn '\n' text) m :=
    congrArg (loadLines · _ m) (funext fun l => funext fun st => filtered_step f (strip l) st)
  rw [hfun, loadLines_map (lineStep (keeps f)) strip, loadLines_lineStep]
  rfl

/-- C12, the filtered load is the full load, filtered, for every file and filter; it fails exactly when, and as, the
    full load fails (`hempty`: what memory already holds is not filtered) -/
theorem filtered_eq_filter_of_full (text : Str) (f : Filter) (m : Store) (hempty : ∀ e ∈ m, e.rules = []) :
    loadFilteredFile text f m = (filterStore f (loadFile text m).1, (loadFile text m).2) := by
  rw [filtered_exact, load_full_general]
  congr 1
  simp only [filterStore, extend, List.map_map]
  exact List.map_congr_left fun e he => by simp [hempty e he, rulesOf_filter]

/-! ## the enforcer: flag machine, save guard, incremental loading, links -/

/-- a filter that actually filters (`None` and the empty / all-blank filter do not) -/
def isProper : Option Filter → Bool
  | none => false
  | some f => !isEmptyFilter f

theorem isEmptyFilter_iff (f : Filter) : isEmptyFilter f = (f.P ++ f.G).all blank := by
  have hb : blank = fun x => (strip x).isEmpty := funext blank_eq
  unfold isEmptyFilter
  rw [hb]
  simp only [List.all_append]
  cases hP : f.P <;> cases hG : f.G <;> simp

/-- what the flag must be after an operation that did not fail in a load -/
def flagAfter (b : Bool) : Op → Bool
  | .load => false
  | .loadFiltered f => isProper f
  | .loadIncrement f => isProper f
  | .save => b
  | .adapterSave => b

/-! ### what the adapter does: its state changes only in the flag, and only when it has read the whole file -/

theorem adapterLoad_flag (s : EState) (m : Store) :
    (adapterLoad s m).1.filtered = if (adapterLoad s m).2.2.isNone then false else s.filtered := rfl

/-- F26a: a full load that fails while the adapter reads the file changes nothing in the adapter -/
theorem adapterLoad_failed_noop (s : EState) (m : Store) (e : Err) (h : (adapterLoad s m).2.2 = some e) :
    (adapterLoad s m).1 = s := by
  revert h
  unfold adapterLoad
  rcases loadFile s.file m with ⟨m', _ | e'⟩ <;> simp

/-- what the adapter loads for a filter: everything for `None` / an empty filter, else what the filter keeps -/
def selected (f : Option Filter) (kr : List (Str × Rule)) : List (Str × Rule) :=
  match f with
  | none => kr
  | some f => if isEmptyFilter f then kr else kr.filter fun p => keeps f p.1 p.2

/-- the adapter in closed form, for every file and every filter (under an empty filter the exception becomes
    `invalidFilter`) -/
theorem adapterLoadFiltered_eq (s : EState) (m : Store) (f : Option Filter) :
    adapterLoadFiltered s m f =
      (if firstError (textLines true s.file) = none then { s with filtered := isProper f } else s,
       extend m (selected f (parsedPairs (goodPrefix (textLines true s.file)))),
       (firstError (textLines true s.file)).map fun e => if f.isSome && !isProper f then .invalidFilter else e) := by
  rcases f with _ | f
  · simp only [adapterLoadFiltered, adapterLoad, load_full_general, selected, isProper]
    cases firstError (textLines true s.file) <;> rfl
  · unfold adapterLoadFiltered
    by_cases he : isEmptyFilter f = true
    · simp only [he, adapterLoad, load_full_general, selected, isProper, ↓reduceIte]
      cases firstError (textLines true s.file) <;> rfl
    · simp only [he, filtered_exact s.file f m, selected, isProper]
      cases firstError (textLines true s.file) <;> rfl

/-! ### the enforcer's loads with the adapter's effect on its own state made explicit -/

theorem loadPolicy_eq (s : EState) :
    loadPolicy s =
      match (adapterLoad s (clearPG s.mem)).2 with
      | (_, some e) => (s, some e)
      | (new, none) =>
        match buildLinks new with
        | (_, some e) => ({ s with filtered := false, links := (buildLinks s.mem).1 }, some e)
        | (ls, none) => ({ s with filtered := false, mem := new, links := ls }, none) := by
  rw [loadPolicy, show adapterLoad s (clearPG s.mem) = _ from adapterLoadFiltered_eq s _ none]
  cases firstError (textLines true s.file) <;> rfl

theorem loadFilteredGen_eq (clear : Bool) (s : EState) (f : Option Filter) :
    loadFilteredGen clear s f =
      match (adapterLoadFiltered s (if clear then clearPG s.mem else s.mem) f).2 with
      | (m1, some e) => ({ s with mem := if clear then s.mem else m1 }, some e)
      | (m1, none) =>
        ({ s with filtered := isProper f, mem := m1, links := (buildLinks m1).1 }, (buildLinks m1).2) := by
  rw [loadFilteredGen, adapterLoadFiltered_eq]
  cases firstError (textLines true s.file) <;> rfl

/-- a failed full load never changes what memory holds (the enforcer loads into a copy) -/
theorem loadPolicy_failed_keeps_memory (s : EState) (h : (loadPolicy s).2 ≠ none) : (loadPolicy s).1.mem = s.mem := by
  rw [loadPolicy_eq] at h ⊢
  split
  · rfl
  · split
    · rfl
    · simp_all

/-- F26a, enforcer level: when the adapter fails to read the file, `load_policy` changes nothing at all; in particular
    `is_filtered()` stays as it was -/
theorem loadPolicy_adapter_failure_noop (s : EState) (e : Err)
    (h : (adapterLoad s (clearPG s.mem)).2.2 = some e) : loadPolicy s = (s, some e) := by
  rw [loadPolicy_eq]; split <;> simp_all

theorem loadPolicy_flag (s : EState) (hok : (loadPolicy s).2 = none) : (loadPolicy s).1.filtered = false := by
  rw [loadPolicy_eq] at hok ⊢
  split
  · simp_all
  · split <;> simp_all

theorem loadFilteredGen_flag (clear : Bool) (s : EState) (f : Option Filter)
    (h : (loadFilteredGen clear s f).2 = none) : (loadFilteredGen clear s f).1.filtered = isProper f := by
  rw [loadFilteredGen_eq] at h ⊢
  split
  · simp_all
  · rfl

/-- C12 (`flag_machine`), one step: after a successful load `is_filtered()` is `flagAfter`; saving (allowed or
    refused) does not change it -/
theorem flag_machine_step (s : EState) (op : Op) (hok : (step s op).2 = none ∨ op = .save ∨ op = .adapterSave) :
    (step s op).1.filtered = flagAfter s.filtered op := by
  cases op with
  | load => exact loadPolicy_flag s (hok.resolve_right (by simp))
  | loadFiltered f => exact loadFilteredGen_flag true s f (hok.resolve_right (by simp))
  | loadIncrement f => exact loadFilteredGen_flag false s f (hok.resolve_right (by simp))
  | save => simp only [step, savePolicy, flagAfter]; split <;> rfl
  | adapterSave => simp only [step, savePolicy, flagAfter]; split <;> rfl

/-- every load of the history succeeds (saves may be refused) -/
def LoadsOk : EState → List Op → Prop
  | _, [] => True
  | s, op :: ops => ((step s op).2 = none ∨ op = .save ∨ op = .adapterSave) ∧ LoadsOk (step s op).1 ops

/-- C12: over any history whose loads succeed the flag is the fold of `flagAfter`, i.e. it is determined by the last
    load (`foldl_flagAfter`) -/
theorem flag_machine (s : EState) (ops : List Op) (h : LoadsOk s ops) :
    (run s ops).filtered = ops.foldl flagAfter s.filtered := by
  induction ops generalizing s with
  | nil => rfl
  | cons op ops ih =>
    obtain ⟨h1, h2⟩ := h
    rw [run, ih _ h2, flag_machine_step s op h1, List.foldl_cons]

/-- the flag after a history in "last load" form -/
def lastLoadFlag : List Op → Option Bool
  | [] => none
  | op :: ops =>
    match lastLoadFlag ops with
    | some b => some b
    | none => match op with
      | .load => some false
      | .loadFiltered f => some (isProper f)
      | .loadIncrement f => some (isProper f)
      | .save => none
      | .adapterSave => none

theorem foldl_flagAfter (b : Bool) (ops : List Op) :
    ops.foldl flagAfter b = (lastLoadFlag ops).getD b := by
  induction ops generalizing b with
  | nil => rfl
  | cons op ops ih =>
    rw [List.foldl_cons, ih]
    conv => rhs; unfold lastLoadFlag
    cases lastLoadFlag ops with
    | some x => rfl
    | none => cases op <;> rfl

/-- C12: while the flag is set, `save_policy` (enforcer) and `adapter.save_policy` raise and nothing changes — in
    particular not the policy file -/
theorem save_refused_when_filtered (s : EState) (op : Op) (hop : op = .save ∨ op = .adapterSave)
    (h : s.filtered = true) : step s op = (s, some .cannotSaveFiltered) := by
  rcases hop with rfl | rfl <;> simp [step, savePolicy, h]

theorem save_still_refused_after_failed_read (s : EState) (e : Err) (hf : s.filtered = true)
    (h : (adapterLoad s (clearPG s.mem)).2.2 = some e) (op : Op) (hop : op = .save ∨ op = .adapterSave) :
    (step (step s .load).1 op).2 = some .cannotSaveFiltered := by
  have : (step s .load).1 = s := by simp [step, loadPolicy_adapter_failure_noop s e h]
  rw [this, save_refused_when_filtered s op hop hf]

theorem save_writes_memory (s : EState) (op : Op) (hop : op = .save ∨ op = .adapterSave)
    (h : s.filtered = false) : step s op = ({ s with file := saveFile s.mem }, none) := by
  rcases hop with rfl | rfl <;> simp [step, savePolicy, h]

/-- C12, a filtered subset is never written: over any history whose loads succeed, a save that is allowed happens
    only when the last load was a full one (or had an empty filter) -/
theorem save_only_after_full_load (s : EState) (ops : List Op) (h : LoadsOk s ops) (op : Op)
    (hop : op = .save ∨ op = .adapterSave) (hsaved : (step (run s ops) op).2 = none) :
    (lastLoadFlag ops).getD s.filtered = false := by
  rw [← foldl_flagAfter, ← flag_machine s ops h]
  cases hf : (run s ops).filtered with
  | false => rfl
  | true => rw [save_refused_when_filtered _ op hop hf] at hsaved; simp at hsaved

theorem adapterLoadFiltered_ok (s : EState) (m : Store) (f : Option Filter)
    (hne : firstError (textLines true s.file) = none) : (adapterLoadFiltered s m f).2.2 = none := by
  rw [adapterLoadFiltered_eq, hne]; rfl

/-- C12 (and `filtered_exact` at enforcer level), for every file and every filter: `load_increment_filtered_policy`
    leaves every policy type with what it held plus the selected rules of the file, in file order (nothing is dropped,
    nothing is deduplicated), also when a line makes the loader raise; `load_filtered_policy` does the same from the
    cleared policy when the adapter does not raise (`h`; when it does, memory stays as it was:
    `loadFiltered_failed_noop`, F26c). -/
theorem incremental_appends (clear : Bool) (s : EState) (f : Option Filter)
    (h : clear = true → (adapterLoadFiltered s (clearPG s.mem) f).2.2 = none) :
    (loadFilteredGen clear s f).1.mem =
      extend (if clear then clearPG s.mem else s.mem)
        (selected f (parsedPairs (goodPrefix (textLines true s.file)))) := by
  rw [loadFilteredGen_eq, adapterLoadFiltered_eq]
  cases hfe : firstError (textLines true s.file) with
  | none => rfl
  | some e =>
    -- the adapter raised: the incremental load keeps what was appended, the clearing load is excluded by `h`
    cases clear with
    | false => rfl
    | true => rw [adapterLoadFiltered_eq, hfe] at h; cases h rfl

theorem incremental_appends_ok (clear : Bool) (s : EState) (f : Option Filter)
    (hok : ∀ l ∈ textLines true s.file, ∀ e, parseLine l ≠ .error e) :
    (loadFilteredGen clear s f).1.mem =
      extend (if clear then clearPG s.mem else s.mem) (selected f (parsedPairs (textLines true s.file))) := by
  have hne := (firstError_none_iff _).mpr hok
  rw [incremental_appends clear s f (fun _ => adapterLoadFiltered_ok s _ f hne), goodPrefix_of_no_error _ hne]

/-- F26c: a `load_filtered_policy` whose adapter raises changes nothing at all: memory, links and `is_filtered()` are
    what they were, so a following `save_policy` is refused or allowed as before the call -/
theorem loadFiltered_failed_noop (s : EState) (f : Option Filter) (e : Err)
    (h : (adapterLoadFiltered s (clearPG s.mem) f).2.2 = some e) : loadFiltered s f = (s, some e) := by
  rw [loadFiltered, loadFilteredGen_eq]; split <;> simp_all

/-- the links a policy defines: for every `g` type, every rule cut to the role definition's arity -/
def edges (m : Store) : List Link :=
  m.flatMap fun e => if e.sec == some 'g' then e.rules.map fun r => (e.key, r.take e.arity) else []

theorem linkArgs_ok (key : Str) (n : Nat) (rs : List Rule) (h : (linkArgs key n rs).2 = none) :
    (linkArgs key n rs).1 = rs.map fun r => (key, r.take n) := by
  fun_induction linkArgs key n rs <;> simp_all

theorem buildLinks_ok (m : Store) (h : (buildLinks m).2 = none) : (buildLinks m).1 = edges m := by
  fun_induction buildLinks m with
  | case1 => rfl
  | case2 => simp at h
  | case3 e es hg ls hl ls' err' hb ih =>
    have := linkArgs_ok e.key e.arity e.rules (by rw [hl])
    simp_all [edges]
  | case4 e es hg ih => simp_all [edges]

/-- C12: after a successful filtered / incremental load the role managers hold exactly the links of the policy now in
    memory (every `g` rule of the loaded subset, cut to the definition's arity, in order) -/
theorem links_from_subset (clear : Bool) (s : EState) (f : Option Filter)
    (hok : (loadFilteredGen clear s f).2 = none) :
    (loadFilteredGen clear s f).1.links = edges (loadFilteredGen clear s f).1.mem := by
  rw [loadFilteredGen_eq] at hok ⊢
  split at hok
  · simp at hok
  · exact buildLinks_ok _ hok

/-! ## incremental loading never drops anything -/

/-- `b` holds, type by type, everything `a` holds, in the same order, possibly followed by more -/
def Ext : Store → Store → Prop
  | [], [] => True
  | x :: xs, y :: ys => (x.key = y.key ∧ x.arity = y.arity ∧ x.rules <+: y.rules) ∧ Ext xs ys
  | _, _ => False

theorem Ext.extend (m : Store) (kr : List (Str × Rule)) : Ext m (extend m kr) := by
  induction m with
  | nil => trivial
  | cons e es ih => exact ⟨⟨rfl, rfl, List.prefix_append ..⟩, ih⟩

theorem Ext.append (m : Store) (k : Str) (r : Rule) : Ext m (m.append k r) := by
  rw [← extend_nil (m.append k r), ← extend_cons]
  exact Ext.extend m _

theorem Ext.refl : ∀ a : Store, Ext a a
  | [] => trivial
  | _ :: xs => ⟨⟨rfl, rfl, List.prefix_refl _⟩, Ext.refl xs⟩

theorem Ext.trans : ∀ {a b c : Store}, Ext a b → Ext b c → Ext a c
  | [], [], [], _, _ => trivial
  | _ :: _, _ :: _, _ :: _, ⟨⟨k1, a1, r1⟩, h1⟩, ⟨⟨k2, a2, r2⟩, h2⟩ =>
    ⟨⟨k1.trans k2, a1.trans a2, r1.trans r2⟩, h1.trans h2⟩

/-- what `Ext` gives a consumer: every policy type keeps its rules as a prefix -/
theorem Ext.get_prefix : ∀ {a b : Store}, Ext a b → ∀ k, a.get k <+: b.get k
  | [], [], _, _ => List.prefix_refl _
  | x :: xs, y :: ys, ⟨⟨hk, _, hr⟩, h⟩, k => by
    have ih := Ext.get_prefix h k
    simp only [Store.get, List.find?_cons, hk] at ih ⊢
    cases y.key == k
    · exact ih
    · exact hr

/-- C12, unconditional: whatever the file contains, whatever the filter, and even when the load raises half-way, after
    `load_increment_filtered_policy` every policy type still holds everything it held, in the same order, followed by
    what was added -/
theorem incremental_never_drops (s : EState) (f : Option Filter) : Ext s.mem (loadIncrement s f).1.mem := by
  rw [loadIncrement, incremental_appends false s f (by simp)]
  exact Ext.extend ..

/-! ## the hypotheses can be met, on a file with every kind of line -/

def exFile : Str := "p, alice, d1, read\np, bob, d2, write\n# note\n\ng, alice, admin\np2, x, y".toList
def exFilter : Filter := { P := ["alice".toList, []], G := [[], "admin".toList] }
def exStore : Store :=
  [{ key := ['p'], arity := 3, rules := [] }, { key := "p2".toList, arity := 2, rules := [] },
   { key := ['g'], arity := 2, rules := [] }]
def exState : EState := { mem := exStore, file := exFile }

/-- a file with a bracketed comma before the filtered position, a rule shorter than the filter, a leading comma and a
    raising last line: `filtered_exact` speaks about all of it -/
def exHardFile : Str := "p, f(a, b), alice\np, alice\n, p, bob, x\ng, alice, admin\np, oops)".toList
def exHardFilter : Filter := { P := [[], "alice".toList, []], G := [[], "admin".toList] }

example : (loadFilteredFile exHardFile exHardFilter exStore).1.map (·.rules) =
      [[["f(a, b)".toList, "alice".toList]], [], [["alice".toList, "admin".toList]]] ∧
    (loadFilteredFile exHardFile exHardFilter exStore).2 = some .indexError ∧
    (loadFile exHardFile exStore).2 = some .indexError := by
  unfold exHardFile
  eval_vector

/-- the filter selects: alice's `p` rule, the `g` rule and the unfiltered `p2` rule are loaded, bob's is not -/
example : (loadFilteredFile exFile exFilter exStore).1.map (·.rules.length) = [1, 1, 1] ∧
    (loadFile exFile exStore).1.map (·.rules.length) = [2, 1, 1] := by
  unfold exFile
  eval_vector

example : filtersTo "p, bob, d2, write".toList exFilter true = true ∧ keeps exFilter ['p'] ["bob".toList] = false := by
  eval_vector

/-- a history whose loads succeed, with a refused and an allowed save -/
def exOps : List Op := [.loadFiltered (some exFilter), .save, .loadIncrement none, .adapterSave]

example : LoadsOk exState exOps := by
  unfold exState exFile
  simp only [exOps, LoadsOk]
  eval_vector

example : (step (run exState [.loadFiltered (some exFilter)]) .save).2 = some .cannotSaveFiltered ∧
    (step (run exState [.loadFiltered (some exFilter), .loadIncrement none]) .save).2 = none := by
  unfold exState exFile
  eval_vector

example : (loadFilteredGen true exState (some exFilter)).2 = none ∧
    (loadFilteredGen true exState (some exFilter)).1.links = [(['g'], ["alice".toList, "admin".toList])] := by
  unfold exState exFile
  eval_vector

example : isProper (some exFilter) = true ∧ isProper none = false ∧
    isProper (some { P := [[], [' ']], G := [] }) = false := by decide +kernel

/-! ## failed full loads and a policy file that goes missing -/

/-- F26b (open): when the adapter has read the file but the enforcer then rejects it (a grouping rule shorter than its
    role definition) the enforcer rolls memory back to the filtered subset, yet the adapter has already ended the
    filtered state - the following `save_policy` is allowed and writes the partial view -/
def f26bState : EState :=
  { mem := [{ key := ['p'], arity := 3, rules := [["a".toList, "b".toList, "c".toList]] }, { key := ['g'], arity := 2, rules := [] }],
    filtered := true, file := "p, a, b, c\np, x, y, z\ng, a".toList }

theorem enforcer_rollback_ends_filtered_state_witness :
    f26bState.filtered = true ∧ (loadPolicy f26bState).2 = some .roleDefinition ∧
    (loadPolicy f26bState).1.mem = f26bState.mem ∧ (loadPolicy f26bState).1.filtered = false ∧
    (step (loadPolicy f26bState).1 .save).2 = none ∧
    (step (loadPolicy f26bState).1 .save).1.file = "p, a, b, c".toList := by
  unfold f26bState
  eval_vector

theorem missing_file_keeps_flag (s : FState) (o : Op) (h : s.present = false) :
    (stepF s (.op o)).1.e.filtered = s.e.filtered := by
  cases o <;> simp only [stepF, h, Bool.false_eq_true, ↓reduceIte, savePolicy]
  all_goals split <;> rfl

theorem missing_file_load_noop (s : FState) (h : s.present = false) :
    stepF s (.op .load) = (s, some .invalidPath) := by
  simp [stepF, h]

/-- the file goes missing, a full load fails, the file is back: a save is refused as before, so the partial view is
    not written over the store -/
theorem save_refused_after_missing_file (s : FState) (hf : s.e.filtered = true) (op : Op)
    (hop : op = .save ∨ op = .adapterSave) :
    stepF (stepF (stepF (stepF s .unlink).1 (.op .load)).1 .restore).1 (.op op) =
      ({ s with present := true }, some .cannotSaveFiltered) := by
  have h1 : stepF (stepF s .unlink).1 (.op .load) = ({ s with present := false }, some .invalidPath) := by
    simp [stepF]
  rw [h1]
  simp [stepF, save_refused_when_filtered s.e op hop hf]

example : (stepF (runF { e := exState } [.op (.loadFiltered (some exFilter)), .unlink, .op .load, .restore]) (.op .save)).2
    = some .cannotSaveFiltered := by
  unfold exState exFile
  eval_vector

end Casbin.C12
