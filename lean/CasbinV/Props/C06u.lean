import CasbinV.Model.Policy
import CasbinV.Proofs.ListFacts
/-!
# C06 (batch update) — `update_policies` keeps the rule set duplicate-free and is all-or-nothing
-/
namespace Casbin.Policy.C06

theorem foldl_set_map (l : List Rule) (hd : l.Nodup) (ps : List (Rule × Rule)) (hnd : (ps.map (·.1)).Nodup)
    (g : Rule → Rule) :
    ps.foldl (fun acc (p : Rule × Rule) => acc.set (l.idxOf p.1) p.2) (l.map g) =
      l.map fun x => match ps.find? (·.1 == x) with | some (_, n) => n | none => g x := by
  induction ps generalizing g with
  | nil => rfl
  | cons p ps ih =>
    obtain ⟨hp, hnd'⟩ := List.nodup_cons.mp hnd
    rw [List.foldl_cons, set_idxOf_map l g p.1 p.2 hd, ih hnd']
    apply List.map_congr_left
    intro x _
    by_cases hx : x = p.1
    · -- no later pair has the same old rule
      have : ps.find? (·.1 == p.1) = none :=
        List.find?_eq_none.mpr fun q hq hc => hp (List.mem_map.mpr ⟨q, hq, by simpa using hc⟩)
      simp [hx, this]
    · simp [hx, Ne.symm hx]

/-- `foldl_set_map` for the pairs of two lists; the right-hand side is `Spec.replaceAll l olds news` written out.
    The proof does not use `hin`: an absent old rule has `idxOf = length`, where `set` changes nothing. -/
theorem foldl_set_eq_map (l : List Rule) (hd : l.Nodup) (olds news : List Rule)
    (hin : ∀ o ∈ olds, o ∈ l) (hnd : olds.Nodup) (hlen : olds.length = news.length) :
    (olds.zip news).foldl (fun acc (p : Rule × Rule) => acc.set (l.idxOf p.1) p.2) l =
      l.map fun x => match (olds.zip news).find? (·.1 == x) with | some (_, n) => n | none => x := by
  simpa using foldl_set_map l hd (olds.zip news) (by rwa [List.map_fst_zip (by omega)]) id

theorem count_replaceAll_le (l olds news : List Rule) (v : Rule) (hv : v ∉ news) :
    (Spec.replaceAll l olds news).count v ≤ l.count v := by
  unfold Spec.replaceAll
  rw [List.count, List.countP_map]
  apply List.countP_mono_left
  intro x _ hx
  simp only [Function.comp] at hx
  split at hx
  · rename_i o n hf
    have : n ∈ news := (List.of_mem_zip (List.mem_of_find?_eq_some hf)).2
    simp_all
  · exact hx

/-- C06: on a duplicate-free rule list `update_policies` answers exactly what `Spec.updateMany` prescribes - every pair
    applied at once, in place, or nothing changed and `False` (lengths differ, an old rule named twice, an old rule
    absent, or the result would hold a rule twice) -/
theorem updateMany_refines (l olds news : List Rule) (hd : l.Nodup) :
    updateMany none l olds news = .ok (Spec.updateMany l olds news) := by
  unfold updateMany Spec.updateMany
  by_cases hlen : olds.length = news.length
  case neg => simp [hlen]
  -- the two duplicate checks count occurrences: of the old rules among themselves, of the new rules in the result
  have hdup := any_count_eq_false_iff olds olds fun v hv => by simp [List.count_eq_zero_of_not_mem hv]
  by_cases hnd : olds.Nodup
  case neg => simp [hlen, mt hdup.mp hnd, hnd]
  by_cases hin : ∀ o ∈ olds, o ∈ l
  case neg => simp [hlen, hdup.mpr hnd, hnd, hin]
  have hall : olds.all l.contains = true := by simpa using hin
  have hcnt := any_count_eq_false_iff news (Spec.replaceAll l olds news) fun v hv =>
    Nat.le_trans (count_replaceAll_le l olds news v hv) (List.nodup_iff_count.mp hd v)
  have hfold : (olds.zip news).foldl (fun acc (p : Rule × Rule) => acc.set (l.idxOf p.1) p.2) l =
      Spec.replaceAll l olds news := foldl_set_eq_map l hd olds news hin hnd hlen
  simp only [hlen, hdup.mpr hnd, hall, hfold]
  by_cases hr : (Spec.replaceAll l olds news).Nodup
  · simpa [hnd, hr, hcnt.mpr hr] using hin
  · simpa [hnd, hr] using mt hcnt.mp hr

/-- `updateMany_refines` read without `Spec`: either nothing changed and the call reports `False`, or every old rule
    was present, the lists have equal length, and the new list (same length, replaced in place) is duplicate-free -/
theorem updateMany_spec (l olds news l' : List Rule) (ok : Bool) (hd : l.Nodup)
    (h : updateMany none l olds news = .ok (l', ok)) :
    (ok = false → l' = l) ∧
    (ok = true → l'.Nodup ∧ l'.length = l.length ∧ olds.length = news.length ∧ (∀ o ∈ olds, o ∈ l) ∧
      l' = (olds.zip news).foldl (fun acc (p : Rule × Rule) => acc.set (l.idxOf p.1) p.2) l ∧ olds.Nodup) := by
  rw [updateMany_refines l olds news hd, Spec.updateMany] at h
  split at h <;> cases h
  · rename_i hc
    obtain ⟨hlen, hnd, hin, hr⟩ := hc
    exact ⟨by simp, fun _ => ⟨hr, by simp [Spec.replaceAll], hlen, hin, (foldl_set_eq_map l hd olds news hin hnd hlen).symm, hnd⟩⟩
  · exact ⟨fun _ => rfl, by simp⟩

theorem updateMany_nodup (l olds news l' : List Rule) (ok : Bool) (hd : l.Nodup)
    (h : updateMany none l olds news = .ok (l', ok)) : l'.Nodup := by
  obtain ⟨h1, h2⟩ := updateMany_spec l olds news l' ok hd h
  cases ok with
  | false => rw [h1 rfl]; exact hd
  | true => exact (h2 rfl).1

example : updateMany none [["a"], ["b"], ["c"]] [["a"], ["b"]] [["b"], ["a"]] = .ok ([["b"], ["a"], ["c"]], true) := by decide
example : updateMany none [["a"], ["b"], ["c"]] [["a"], ["b"]] [["c"], ["x"]] = .ok ([["a"], ["b"], ["c"]], false) := by decide
-- an old rule named twice is refused as a whole (DESIGN 11.3, F37); a chain through a rule that is itself replaced
-- applies at once
example : updateMany none [["a"], ["b"], ["c"]] [["a"], ["a"]] [["x"], ["y"]] = .ok ([["a"], ["b"], ["c"]], false) := by decide
example : updateMany none [["a"], ["b"], ["c"]] [["a"], ["b"]] [["b"], ["x"]] = .ok ([["b"], ["x"], ["c"]], true) := by decide
example : Spec.updateMany [["a"], ["b"], ["c"]] [["a"], ["b"]] [["b"], ["x"]] = ([["b"], ["x"], ["c"]], true) := by decide

end Casbin.Policy.C06
