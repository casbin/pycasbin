import CasbinV.Model.EnforcerQ
import CasbinV.Props.C15
import CasbinV.Props.C15f
import CasbinV.Props.C06
/-!
# C15 — the rest of the RBAC query API (resource-centred views, per-domain variants, direct views)

Subject: Model/EnforcerQ.lean (`get_implicit_users_for_resource[_by_domain]`, `get_all_roles_by_domain`,
`get_permissions_for_user[_in_domain]`, `has_permission_for_user`, `get_implicit_permissions_for_user` with a domain)
against `enforceQ` of Model/Enforcer.lean.
-/
namespace Casbin.Enf.C15
open Casbin.Policy

theorem dedupR_mem (l : List Rule) (x : Rule) : x ∈ dedupR l ↔ x ∈ l := by
  induction l with
  | nil => simp [dedupR]
  | cons a as ih => by_cases h : x = a <;> simp [dedupR, ih, h]

theorem dedupR_nodup (l : List Rule) : (dedupR l).Nodup := by
  induction l with
  | nil => simp [dedupR]
  | cons a as ih => exact List.nodup_cons.mpr ⟨by simp, ih.filter _⟩

/-- a listed rule is a selected stored rule `ps :: tl` under another subject: `ps` itself when it is not a role,
    otherwise a direct user of `ps` -/
theorem mem_usersForResourceCore (isRole : String → Bool) (users : String → List String) (sel : Rule → Bool)
    (p : List Rule) (x : Rule) :
    x ∈ usersForResourceCore isRole users sel p ↔
      ∃ ps tl u, ps :: tl ∈ p ∧ sel (ps :: tl) = true ∧ x = u :: tl ∧
        ((isRole ps = false ∧ u = ps) ∨ (isRole ps = true ∧ u ∈ users ps)) := by
  simp only [usersForResourceCore, dedupR_mem, List.mem_flatMap, List.mem_filter]
  constructor
  · rintro ⟨rule, ⟨hr, hs⟩, hx⟩
    match rule with
    | [] => simp [expandRule] at hx
    | ps :: tl =>
      refine ⟨ps, tl, ?_⟩
      cases hrole : isRole ps <;> simp [expandRule, hrole] at hx
      · exact ⟨ps, hr, hs, hx, Or.inl ⟨rfl, rfl⟩⟩
      · obtain ⟨u, hu, rfl⟩ := hx
        exact ⟨u, hr, hs, rfl, Or.inr ⟨rfl, hu⟩⟩
  · rintro ⟨ps, tl, u, hr, hs, rfl, h⟩
    refine ⟨ps :: tl, ⟨hr, hs⟩, ?_⟩
    rcases h with ⟨hrole, rfl⟩ | ⟨hrole, hu⟩
    · simp [expandRule, hrole]
    · simpa [expandRule, hrole] using hu

theorem usersForResourceCore_mem (isRole : String → Bool) (users : String → List String) (sel : Rule → Bool)
    (p : List Rule) :
    (∀ x, x ∈ usersForResourceCore isRole users sel p ↔
      ∃ rule ∈ p, sel rule = true ∧ ∃ sub, rule[0]? = some sub ∧
        ((isRole sub = false ∧ x = rule) ∨ (isRole sub = true ∧ ∃ u ∈ users sub, x = rule.set 0 u))) ∧
    (usersForResourceCore isRole users sel p).Nodup := by
  refine ⟨fun x => ?_, dedupR_nodup _⟩
  rw [mem_usersForResourceCore]
  constructor
  · rintro ⟨ps, tl, u, hr, hs, rfl, h⟩
    refine ⟨_, hr, hs, ps, rfl, ?_⟩
    rcases h with ⟨hrole, rfl⟩ | ⟨hrole, hu⟩
    · exact .inl ⟨hrole, rfl⟩
    · exact .inr ⟨hrole, u, hu, rfl⟩
  · rintro ⟨rule, hr, hs, sub, h0, h⟩
    match rule, h0 with
    | ps :: tl, h0 =>
      cases h0
      rcases h with ⟨a, rfl⟩ | ⟨a, u, b, rfl⟩
      · exact ⟨sub, tl, sub, hr, hs, rfl, Or.inl ⟨a, rfl⟩⟩
      · exact ⟨sub, tl, u, hr, hs, rfl, Or.inr ⟨a, b⟩⟩

/-- every listed triple carries the fields (other than the subject) of a selected stored rule - in particular the
    resource asked for and, for the domain variant, the domain asked for: no rule of another domain leaks (F11) -/
theorem usersForResourceCore_fields (isRole : String → Bool) (users : String → List String) (sel : Rule → Bool)
    (p : List Rule) (x : Rule) (hx : x ∈ usersForResourceCore isRole users sel p) :
    ∃ rule ∈ p, sel rule = true ∧ ∀ i, i ≠ 0 → x[i]? = rule[i]? := by
  obtain ⟨ps, tl, u, hr, hs, rfl, _⟩ := (mem_usersForResourceCore ..).mp hx
  exact ⟨_, hr, hs, fun i hi => List.getElem?_set_ne (l := ps :: tl) (a := u) (Ne.symm hi)⟩

theorem by_domain_no_foreign_rule (s : St) (resource dom : String) (x : Rule)
    (hx : x ∈ implicitUsersForResourceByDomain .rbacDom s resource dom) :
    x[1]? = some dom ∧ x[2]? = some resource := by
  obtain ⟨rule, _, hs, hf⟩ := usersForResourceCore_fields _ _ _ _ x hx
  simp only [Shape.objIdx, Shape.domIdx, Bool.and_eq_true, beq_iff_eq] at hs
  exact ⟨by rw [hf 1 (by decide)]; exact hs.2, by rw [hf 2 (by decide)]; exact hs.1⟩

/-! ## one-level hierarchies: the views agree with `enforce` -/

/-- no role is itself assigned a role (the hierarchy has one level) -/
def Flat (g : Graph) : Prop := ∀ u r, (u, r) ∈ g → ∀ w, (w, u) ∉ g

theorem flat_path (g : Graph) (hf : Flat g) (u r : Name) (n : Nat) (p : Path g u r (n + 1)) : n = 0 ∧ (u, r) ∈ g := by
  cases p with
  | step he p' =>
    cases p' with
    | refl => exact ⟨rfl, he⟩
    | step he' _ => exact absurd he (hf _ _ he' _)

theorem depthOK_of_flat (g : Graph) (hf : Flat g) (u : Name) : DepthOK g u := by
  rintro r ⟨n, p⟩
  obtain ⟨rfl, _⟩ := flat_path g hf u r n p
  exact ⟨1, by decide, p⟩

theorem flat_hasLink (g : Graph) (hf : Flat g) (u r : Name) :
    hasLink g maxLevel u r = true ↔ u = r ∨ (u, r) ∈ g := by
  rw [hasLink_iff]
  constructor
  · rintro (h | ⟨n, _, p⟩)
    · exact Or.inl h
    · cases n with
      | zero => cases p; exact Or.inl rfl
      | succ k => exact Or.inr (flat_path g hf u r k p).2
  · exact Or.imp_right fun h => ⟨1, by decide, Path.step h (Path.refl _)⟩

/-- the two ways a one-level view lists `u` for a rule of `ps`, said with `has_link`: when "is a role" means "is
    assigned to somebody" (`hsync`) and nobody assigned a role is a role (`hflat`), `u` is listed for `ps` exactly when
    `u` is no role and holds `ps` -/
theorem listed_iff_flat (g : Graph) (hflat : Flat g) (isRole : String → Prop) (hsync : ∀ r, isRole r ↔ ∃ u, (u, r) ∈ g)
    (u ps : String) :
    ((¬ isRole ps ∧ u = ps) ∨ (isRole ps ∧ (u, ps) ∈ g)) ↔ ¬ isRole u ∧ hasLink g maxLevel u ps = true := by
  rw [flat_hasLink g hflat]
  constructor
  · rintro (⟨hr, rfl⟩ | ⟨_, he⟩)
    · exact ⟨hr, Or.inl rfl⟩
    · exact ⟨fun hu => (hsync u).mp hu |>.elim fun w hw => hflat _ _ he _ hw, Or.inr he⟩
  · rintro ⟨hu, rfl | he⟩
    · exact Or.inl ⟨hu, rfl⟩
    · exact Or.inr ⟨(hsync ps).mpr ⟨u, he⟩, he⟩

/-- "is a role" as decided from the stored grouping rules agrees with the link store of `g`.  A hypothesis of
    `implicit_users_for_resource_partial`, not derived from C04's `Coherent` (the domain variant has
    `rolesSyncedD_of_built`) -/
def RolesSynced (s : St) : Prop := ∀ r, r ∈ fieldValues s.pol.g 1 ↔ ∃ u, (u, r) ∈ edgesOf s.links.g none

theorem mem_allRoles (s : St) (r : String) : r ∈ allRoles s ↔ r ∈ fieldValues s.pol.g 1 := Iff.rfl

/-- the listed triples of the plain RBAC model, for every policy -/
theorem implicit_users_for_resource_mem (s : St) (res u o a : String) :
    [u, o, a] ∈ implicitUsersForResource .rbac s res ↔
      o = res ∧ ∃ ps, [ps, o, a] ∈ s.pol.p ∧
        ((ps ∉ allRoles s ∧ u = ps) ∨ (ps ∈ allRoles s ∧ (u, ps) ∈ edgesOf s.links.g none)) := by
  simp only [implicitUsersForResource, mem_usersForResourceCore, Shape.objIdx, List.cons.injEq, mem_getUsers,
    List.contains_eq_mem, decide_eq_false_iff_not, decide_eq_true_eq]
  constructor
  · rintro ⟨ps, _, _, hr, hs, ⟨rfl, rfl⟩, h⟩
    exact ⟨by simpa using hs.symm, ps, hr, h⟩
  · rintro ⟨rfl, ps, hr, h⟩
    exact ⟨ps, _, u, hr, by simp, ⟨rfl, rfl⟩, h⟩

/-- C15, the resource-centred view agrees with enforcement on one-level hierarchies: in the RBAC model, when no role is
    itself given a role, `get_implicit_users_for_resource(res)` lists `[u, o, a]` exactly when `o` is the resource,
    `u` is not a role and `enforce(u, o, a)` allows - directly or through a role.  (`_partial`: the hypothesis `Flat`
    is necessary, see `implicit_users_for_resource_nested_witness`.) -/
theorem implicit_users_for_resource_partial (s : St) (hs : PSized s.pol.p) (hne : s.pol.p ≠ [])
    (hsync : RolesSynced s) (hflat : Flat (edgesOf s.links.g none)) (res u o a : String) :
    [u, o, a] ∈ implicitUsersForResource .rbac s res ↔
      o = res ∧ u ∉ allRoles s ∧ enforceQ .rbac s [u, o, a] = .ok true := by
  rw [implicit_users_for_resource_mem, enforce_rbac_iff s u o a hs hne]
  simp only [listed_iff_flat _ hflat (· ∈ allRoles s) hsync, hasLinkQ]
  exact and_congr_right fun _ => ⟨fun ⟨ps, hr, hu, hl⟩ => ⟨hu, ps, hr, hl⟩, fun ⟨hu, ps, hr, hl⟩ => ⟨ps, hr, hu, hl⟩⟩

theorem implicit_users_for_resource_shape (s : St) (hs : PSized s.pol.p) (res : String) :
    (∀ x ∈ implicitUsersForResource .rbac s res, ∃ u a, x = [u, res, a]) ∧
    (implicitUsersForResource .rbac s res).Nodup := by
  refine ⟨fun x hx => ?_, dedupR_nodup _⟩
  obtain ⟨ps, tl, u, hr, hsel, rfl, _⟩ := (mem_usersForResourceCore ..).mp hx
  obtain ⟨_, po, pa, h⟩ := length_eq_three (hs _ hr)
  cases h
  have : po = res := by simpa [Shape.objIdx] using hsel
  exact ⟨u, pa, by rw [this]⟩

/-- the negative witness: with a two-level hierarchy (`alice → admin → root`, `p, root, data1, read`) the view lists
    the role `admin` and misses the user `alice`, whom `enforce` allows -/
theorem implicit_users_for_resource_nested_witness :
    let s : St := { pol := { p := [["root", "data1", "read"]], g := [["alice", "admin"], ["admin", "root"]] },
                    links := { g := [["alice", "admin"], ["admin", "root"]] } }
    implicitUsersForResource .rbac s "data1" = [["admin", "data1", "read"]] ∧
    "admin" ∈ allRoles s ∧ "alice" ∉ allRoles s ∧
    enforceQ .rbac s ["alice", "data1", "read"] = .ok true := by
  decide +kernel

/-! ## the domain model -/

def PSized4 (l : List Rule) : Prop := ∀ r ∈ l, r.length = 4
def GSized3 (l : List Rule) : Prop := ∀ r ∈ l, r.length = 3

def matchD (links : Pol) (rs rd ro ra : String) (pv : Rule) : Bool :=
  match pv with
  | ps :: pd :: po :: pa :: _ => hasLinkQ links.g rs ps (some rd) && rd == pd && ro == po && ra == pa
  | _ => false

theorem enforce_dom (s : St) (rs rd ro ra : String) (h : PSized4 s.pol.p) (hne : s.pol.p ≠ []) :
    enforceQ .rbacDom s [rs, rd, ro, ra] = .ok (s.pol.p.any (matchD s.links rs rd ro ra)) :=
  enforceQ_any .rbacDom s _ _ rfl hne fun pv hpv => ⟨h pv hpv, by
    obtain ⟨ps, pd, po, pa, rfl⟩ := length_eq_four (h pv hpv)
    rfl⟩

theorem enforce_dom_iff (s : St) (rs rd ro ra : String) (h : PSized4 s.pol.p) (hne : s.pol.p ≠ []) :
    enforceQ .rbacDom s [rs, rd, ro, ra] = .ok true ↔
      ∃ ps, [ps, rd, ro, ra] ∈ s.pol.p ∧ hasLinkQ s.links.g rs ps (some rd) = true := by
  rw [enforce_dom s rs rd ro ra h hne, Except.ok.injEq, List.any_eq_true]
  constructor
  · rintro ⟨pv, hpv, hm⟩
    obtain ⟨ps, pd, po, pa, rfl⟩ := length_eq_four (h pv hpv)
    simp only [matchD, Bool.and_eq_true, beq_iff_eq] at hm
    obtain ⟨⟨⟨hl, rfl⟩, rfl⟩, rfl⟩ := hm
    exact ⟨ps, hpv, hl⟩
  · rintro ⟨ps, hpv, hl⟩
    exact ⟨_, hpv, by simp [matchD, hl]⟩

/-- `get_all_roles_by_domain`: each once, exactly the last-but-one fields of the stored grouping rules that end
    with the domain -/
theorem allRolesByDomain_mem (g : List Rule) (dom r : String) :
    (r ∈ allRolesByDomain g dom ↔ ∃ rule ∈ g, rule.getLast? = some dom ∧ rule[rule.length - 2]? = some r) ∧
    (allRolesByDomain g dom).Nodup := by
  refine ⟨?_, dedupS_nodup _⟩
  simp only [allRolesByDomain, dedupS_mem, List.mem_filterMap, beq_iff_eq, Option.ite_none_right_eq_some]

/-- on well-sized grouping rules `g = _, _, _`: the roles some subject is given in that domain -/
theorem allRolesByDomain_sized (g : List Rule) (hg : GSized3 g) (dom r : String) :
    r ∈ allRolesByDomain g dom ↔ ∃ u, [u, r, dom] ∈ g := by
  rw [(allRolesByDomain_mem g dom r).1]
  constructor
  · rintro ⟨rule, hr, hl, h⟩
    obtain ⟨a, b, c, rfl⟩ := length_eq_three (hg rule hr)
    simp at hl h
    subst hl; subst h
    exact ⟨a, hr⟩
  · rintro ⟨u, hu⟩
    exact ⟨[u, r, dom], hu, by simp, by simp⟩

/-- "is a role in the domain" as decided from the stored rules agrees with the link store of the role manager -/
def RolesSyncedD (s : St) (dom : String) : Prop :=
  ∀ r, r ∈ allRolesByDomain s.pol.g dom ↔ ∃ u, (u, r) ∈ edgesOf s.links.g (some dom)

/-- the hypothesis holds whenever the link store holds the stored rules (the state after `build_role_links`) -/
theorem rolesSyncedD_of_built (s : St) (dom : String) (hg : GSized3 s.pol.g)
    (hl : ∀ l, l ∈ s.links.g ↔ l ∈ s.pol.g) : RolesSyncedD s dom := by
  intro r
  simp only [allRolesByDomain_sized _ hg, mem_edgesOf_dom, hl]

/-- the listed rules of the domain model, for every policy -/
theorem implicit_users_for_resource_by_domain_mem (s : St) (res dom u d o a : String) :
    [u, d, o, a] ∈ implicitUsersForResourceByDomain .rbacDom s res dom ↔
      o = res ∧ d = dom ∧ ∃ ps, [ps, d, o, a] ∈ s.pol.p ∧
        ((ps ∉ allRolesByDomain s.pol.g dom ∧ u = ps) ∨
         (ps ∈ allRolesByDomain s.pol.g dom ∧ (u, ps) ∈ edgesOf s.links.g (some dom))) := by
  simp only [implicitUsersForResourceByDomain, mem_usersForResourceCore, Shape.objIdx, Shape.domIdx, List.cons.injEq,
    mem_getUsers, List.contains_eq_mem, decide_eq_false_iff_not, decide_eq_true_eq]
  constructor
  · rintro ⟨ps, _, _, hr, hs, ⟨rfl, rfl⟩, h⟩
    have hs : o = res ∧ d = dom := by simpa using hs
    exact ⟨hs.1, hs.2, ps, hr, h⟩
  · rintro ⟨rfl, rfl, ps, hr, h⟩
    exact ⟨ps, _, u, hr, by simp, ⟨rfl, rfl⟩, h⟩

/-- C15, the by-domain view agrees with enforcement in that domain on one-level hierarchies: it lists `[u, d, o, a]`
    exactly when `o` and `d` are the resource and the domain asked for, `u` is not a role of that domain and
    `enforce(u, d, o, a)` allows; assignments and rules of other domains play no part. -/
theorem implicit_users_for_resource_by_domain_partial (s : St) (hs : PSized4 s.pol.p) (hne : s.pol.p ≠ [])
    (res dom : String) (hsync : RolesSyncedD s dom) (hflat : Flat (edgesOf s.links.g (some dom))) (u d o a : String) :
    [u, d, o, a] ∈ implicitUsersForResourceByDomain .rbacDom s res dom ↔
      o = res ∧ d = dom ∧ u ∉ allRolesByDomain s.pol.g dom ∧ enforceQ .rbacDom s [u, d, o, a] = .ok true := by
  rw [implicit_users_for_resource_by_domain_mem, enforce_dom_iff s u d o a hs hne]
  simp only [listed_iff_flat _ hflat (· ∈ allRolesByDomain s.pol.g dom) hsync]
  refine and_congr_right fun _ => and_congr_right fun hd => ?_
  subst hd
  exact ⟨fun ⟨ps, hr, hu, hl⟩ => ⟨hu, ps, hr, hl⟩, fun ⟨hu, ps, hr, hl⟩ => ⟨ps, hr, hu, hl⟩⟩

theorem implicit_users_for_resource_by_domain_shape (s : St) (hs : PSized4 s.pol.p) (res dom : String) :
    (∀ x ∈ implicitUsersForResourceByDomain .rbacDom s res dom, ∃ u a, x = [u, dom, res, a]) ∧
    (implicitUsersForResourceByDomain .rbacDom s res dom).Nodup := by
  refine ⟨fun x hx => ?_, dedupR_nodup _⟩
  obtain ⟨ps, tl, u, hr, hsel, rfl, _⟩ := (mem_usersForResourceCore ..).mp hx
  obtain ⟨_, pd, po, pa, h⟩ := length_eq_four (hs _ hr)
  cases h
  have : po = res ∧ pd = dom := by simpa [Shape.objIdx, Shape.domIdx] using hsel
  exact ⟨u, pa, by rw [this.1, this.2]⟩

/-- the negative witness in a domain: `alice → admin → root` in `d1` -/
theorem implicit_users_for_resource_by_domain_nested_witness :
    let s : St := { pol := { p := [["root", "d1", "data1", "read"]], g := [["alice", "admin", "d1"], ["admin", "root", "d1"]] },
                    links := { g := [["alice", "admin", "d1"], ["admin", "root", "d1"]] } }
    implicitUsersForResourceByDomain .rbacDom s "data1" "d1" = [["admin", "d1", "data1", "read"]] ∧
    "admin" ∈ allRolesByDomain s.pol.g "d1" ∧ "alice" ∉ allRolesByDomain s.pol.g "d1" ∧
    enforceQ .rbacDom s ["alice", "d1", "data1", "read"] = .ok true := by
  decide +kernel

/-! ## direct views: filters of the stored rules -/

theorem matchesFilter_one (a : String) (r : Rule) :
    Spec.matchesFilter 0 [a] r = (a == "" || r[0]? == some a) := by
  rw [C06.matchesFilter_cons]; simp [Spec.matchesFilter]

theorem matchesFilter_two (a b : String) (r : Rule) :
    Spec.matchesFilter 0 [a, b] r = ((a == "" || r[0]? == some a) && (b == "" || r[1]? == some b)) := by
  rw [C06.matchesFilter_cons, C06.matchesFilter_cons]; simp [Spec.matchesFilter]

/-- `get_permissions_for_user` = the stored rules whose subject is the user, in stored order -/
theorem permissionsForUser_exact (s : St) (user : String) (hu : user ≠ "") (h : ∀ r ∈ s.pol.p, 1 ≤ r.length) :
    permissionsForUser s user = .ok (s.pol.p.filter fun r => r[0]? == some user) := by
  rw [permissionsForUser, C06.getFiltered_exact _ _ _ (by simpa [C06.InRange] using h), Spec.getFiltered]
  exact congrArg _ (List.filter_congr fun r _ => by rw [matchesFilter_one, beq_false_of_ne hu]; rfl)

/-- `get_permissions_for_user_in_domain` = the stored rules of that subject in that domain, in stored order -/
theorem permissionsForUserInDomain_exact (s : St) (user dom : String) (hu : user ≠ "") (hd : dom ≠ "")
    (h : ∀ r ∈ s.pol.p, 2 ≤ r.length) :
    permissionsForUserInDomain s user dom = .ok (s.pol.p.filter fun r => r[0]? == some user && r[1]? == some dom) := by
  rw [permissionsForUserInDomain, C06.getFiltered_exact _ _ _ (by simpa [C06.InRange] using h), Spec.getFiltered]
  exact congrArg _ (List.filter_congr fun r _ => by rw [matchesFilter_two, beq_false_of_ne hu, beq_false_of_ne hd]; rfl)

/-- `has_permission_for_user` is membership of the stored rules (`hasPermission_iff_listed`: it agrees with
    `get_permissions_for_user`) -/
theorem hasPermissionForUser_iff (s : St) (user : String) (perm : List String) :
    hasPermissionForUser s user perm = true ↔ (user :: perm) ∈ s.pol.p := by
  simp [hasPermissionForUser]

theorem hasPermission_iff_listed (s : St) (user : String) (perm : List String) (hu : user ≠ "")
    (h : ∀ r ∈ s.pol.p, 1 ≤ r.length) :
    hasPermissionForUser s user perm = true ↔ ∃ l, permissionsForUser s user = .ok l ∧ (user :: perm) ∈ l := by
  simp [hasPermissionForUser_iff, permissionsForUser_exact s user hu h]

/-! ## implicit permissions in a domain -/

theorem gatherPermissions_exact (p : List Rule) (d : String) (roles : List String) (h : ∀ r ∈ p, 2 ≤ r.length) :
    gatherPermissions p d roles = .ok (roles.flatMap fun role => Spec.getFiltered p 0 [role, d]) := by
  induction roles with
  | nil => rfl
  | cons role rest ih =>
    simp only [gatherPermissions, C06.getFiltered_exact p 0 [role, d] (by simpa [C06.InRange] using h), ih,
      List.flatMap_cons]

theorem path_last_edge {g : Graph} {u r : Name} {n : Nat} (p : Path g u r (n + 1)) : ∃ v, (v, r) ∈ g := by
  cases p with
  | step he p' => exact path_closed (S := fun y => ∃ v, (v, y) ∈ g) (fun x y _ h => ⟨x, h⟩) p' ⟨_, he⟩

/-- C15, enforce ⇔ implicit permission per domain: in the domain model (allow-override, matcher = role membership in
    the request's domain plus equality on domain, object and action), within the depth bound, a request is allowed
    exactly when its domain, object and action appear among `get_implicit_permissions_for_user(sub, dom)`.  The empty
    string is excluded as subject and as role name: as a filter value it is the wildcard of `get_filtered_policy`
    (the proof does not use `hrd`). -/
theorem enforce_iff_implicit_permission_dom (s : St) (rs rd ro ra : String) (perms : List Rule)
    (hs : PSized4 s.pol.p) (hne : s.pol.p ≠ []) (hrs : rs ≠ "") (hrd : rd ≠ "")
    (hnames : ∀ u r, (u, r) ∈ edgesOf s.links.g (some rd) → r ≠ "")
    (hp : implicitPermissionsDom s rs rd true = some (.ok perms))
    (hdepth : DepthOK (edgesOf s.links.g (some rd)) rs) :
    enforceQ .rbacDom s [rs, rd, ro, ra] = .ok true ↔ ∃ ps, [ps, rd, ro, ra] ∈ perms := by
  obtain ⟨roles, hroles⟩ := implicitRoles_total s.links.g rs (some rd)
  have h2 : ∀ r ∈ s.pol.p, 2 ≤ r.length := fun r hr => by rw [hs r hr]; decide
  simp only [implicitPermissionsDom, hroles, Option.map_some, if_true, gatherPermissions_exact _ _ _ h2,
    Option.some.injEq, Except.ok.injEq] at hp
  subst hp
  -- no holder is the empty string, so the filter `[role, rd]` has no wildcard
  have hroleNe : ∀ role ∈ rs :: roles, role ≠ "" := List.forall_mem_cons.mpr ⟨hrs, fun role h => by
    obtain ⟨n, p⟩ := ((implicit_roles_iff _ _ _ _ hroles).1 role).mp h
    exact (path_last_edge p).elim fun v hv => hnames v role hv⟩
  rw [enforce_dom_iff s rs rd ro ra hs hne]
  refine exists_congr fun ps => ?_
  rw [hasLinkQ_iff_implicit _ _ _ _ hroles hdepth, List.mem_flatMap]
  constructor
  · rintro ⟨h1, h2⟩
    exact ⟨ps, h2, by simp [Spec.getFiltered, matchesFilter_two, h1]⟩
  · rintro ⟨role, h2, h1⟩
    have := hroleNe role h2
    simp [Spec.getFiltered, matchesFilter_two, this] at h1
    exact ⟨h1.1, h1.2 ▸ h2⟩

/-- with `filter_policy_dom = False` the permissions of the user and of the roles held in the domain are listed
    whatever their domain field (the stored rules of those subjects, in order of the holders) -/
theorem implicitPermissionsDom_unfiltered (s : St) (user dom : String) (roles : List String)
    (h : ∀ r ∈ s.pol.p, 2 ≤ r.length) (hroles : implicitRoles s.links.g user (some dom) = some roles) :
    implicitPermissionsDom s user dom false =
      some (.ok ((user :: roles).flatMap fun role => Spec.getFiltered s.pol.p 0 [role, ""])) := by
  simp [implicitPermissionsDom, hroles, gatherPermissions_exact _ _ _ h]

theorem flat_singleton {a b : Name} (h : a ≠ b) : Flat [(a, b)] := by
  intro u r hur w hwu
  cases List.mem_singleton.mp hur
  cases List.mem_singleton.mp hwu
  exact h rfl

example :
    let s : St := { pol := { p := [["admin", "data1", "read"], ["bob", "data1", "write"]], g := [["alice", "admin"]] },
                    links := { g := [["alice", "admin"]] } }
    PSized s.pol.p ∧ s.pol.p ≠ [] ∧ RolesSynced s ∧ Flat (edgesOf s.links.g none) ∧
    implicitUsersForResource .rbac s "data1" = [["alice", "data1", "read"], ["bob", "data1", "write"]] ∧
    permissionsForUser s "bob" = .ok [["bob", "data1", "write"]] ∧
    hasPermissionForUser s "bob" ["data1", "write"] = true := by
  intro s
  have hg : edgesOf s.links.g none = [("alice", "admin")] := rfl
  have hr : allRoles s = ["admin"] := rfl
  refine ⟨(by decide : ∀ r ∈ s.pol.p, r.length = 3), by decide, fun r => ?_, hg ▸ flat_singleton (by decide), by decide, by decide, by decide⟩
  rw [hg, ← mem_allRoles, hr]
  simp

example :
    let s : St := { pol := { p := [["admin", "d1", "data1", "read"], ["admin", "d2", "data1", "read"]],
                             g := [["alice", "admin", "d1"], ["bob", "admin", "d2"]] },
                    links := { g := [["alice", "admin", "d1"], ["bob", "admin", "d2"]] } }
    PSized4 s.pol.p ∧ GSized3 s.pol.g ∧ Flat (edgesOf s.links.g (some "d1")) ∧ RolesSyncedD s "d1" ∧
    implicitUsersForResourceByDomain .rbacDom s "data1" "d1" = [["alice", "d1", "data1", "read"]] ∧
    allRolesByDomain s.pol.g "d1" = ["admin"] ∧
    permissionsForUserInDomain s "admin" "d2" = .ok [["admin", "d2", "data1", "read"]] ∧
    implicitPermissionsDom s "alice" "d1" true = some (.ok [["admin", "d1", "data1", "read"]]) ∧
    implicitPermissionsDom s "alice" "d1" false =
      some (.ok [["admin", "d1", "data1", "read"], ["admin", "d2", "data1", "read"]]) ∧
    enforceQ .rbacDom s ["alice", "d1", "data1", "read"] = .ok true ∧
    DepthOK (edgesOf s.links.g (some "d1")) "alice" := by
  intro s
  have hg : edgesOf s.links.g (some "d1") = [("alice", "admin")] := by decide
  have h3 : GSized3 s.pol.g := (by decide : ∀ r ∈ s.pol.g, r.length = 3)
  refine ⟨(by decide : ∀ r ∈ s.pol.p, r.length = 4), h3, hg ▸ flat_singleton (by decide),
    rolesSyncedD_of_built _ _ h3 (fun l => Iff.rfl), by decide, by decide, by decide,
    by decide, by decide, by decide, ?_⟩
  exact depthOK_of_flat _ (hg ▸ flat_singleton (by decide)) _

end Casbin.Enf.C15
