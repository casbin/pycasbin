import CasbinV.Props.C03
namespace Casbin.C14
open Casbin.RM Casbin.C03

/-! # C14 — pattern role assignments grant their roles to exactly the names that match

Setting: a `RoleManager` with a registered matching function `m` (`m name pattern`).  Hypotheses, stated once:
* `Trans m` — the matching function is transitive (`key_match` is, which is not proved here; `key_match2` and the
  regex functions are on some pattern sets and not on others: `km2_not_trans`).  Without it the code is order
  dependent (F22, open): `nontransitive_order_dependent`.
* `PlainRoles m ops` — patterns sit on the user / resource side: no other name matches an assigned role.  Without it:
  `role_side_pattern_order_dependent` (C14Dom.lean).
The specification is reachability over the effective edges `E* = EStar m (assignments in force)`.
-/

/-- a manager on which `add_matching_func(m)` was called before anything else -/
def start (L : Nat) (m : MatchFn) : RM := (fresh L none).addMatchingFunc m

theorem start_eq (L : Nat) (m : MatchFn) : start L m = fresh L (some m) := rfl

theorem mtch_fresh (L : Nat) (m : MatchFn) : (fresh L (some m)).mtch = m := rfl

/-- After ANY history of adds, deletes, first-sight queries and clears, in any order: no call raised, and
    `has_link(u, r)` ⇔ `r` is reachable from `u` in fewer than `max_hierarchy_level` effective edges over the stored
    links, which are the assignments in force. -/
theorem pattern_history (L : Nat) (m : MatchFn) (ht : Trans m) (ops : List Op) (hops : PlainRoles m ops)
    (u r : Name) :
    errors (start L m) ops = [] ∧
    (((run (start L m) ops).hasLink u r).2 = true ↔
      ∃ n, n < L ∧ PathR (EStar m ((run (start L m) ops).allLinks)) u r n) ∧
    ∀ l, l ∈ (run (start L m) ops).allLinks ↔ inForce ops l = true := by
  rw [start_eq]
  obtain ⟨h1, h2, h3, h4, h5⟩ := run_inv (s := fresh L (some m)) ht (fresh_inv L _) ops hops
  refine ⟨h2, ?_, fun l => ?_⟩
  · rw [hasLink_iff_pathR (by rw [h3]; exact ht) h1, h3, h4]; rfl
  · rw [h5]; simp [inForce, fresh]

/-- the add-only statement of DESIGN.md §6 C14 (adds and first-sight queries interleaved in any order). The restriction
    `_hadd` is not needed: this is `pattern_history`. -/
theorem pattern_add_only (L : Nat) (m : MatchFn) (ht : Trans m) (ops : List Op) (hops : PlainRoles m ops)
    (_hadd : ∀ op ∈ ops, (∃ a b, op = .add a b) ∨ (∃ a b, op = .has a b) ∨ (∃ a, op = .roles a) ∨ (∃ a, op = .users a))
    (u r : Name) :
    ((run (start L m) ops).hasLink u r).2 = true ↔
      ∃ n, n < L ∧ PathR (EStar m ((run (start L m) ops).allLinks)) u r n :=
  (pattern_history L m ht ops hops u r).2.1

/-- a name that is not the user of an assignment in force and matches no user pattern holds nothing but itself, and
    `get_roles` reports nothing for it -/
theorem pattern_unmatched_gain_nothing (L : Nat) (m : MatchFn) (ht : Trans m) (ops : List Op)
    (hops : PlainRoles m ops) (u : Name)
    (hu : ∀ a b, inForce ops (a, b) = true → u ≠ a ∧ m u a = false) :
    (∀ r, r ≠ u → ((run (start L m) ops).hasLink u r).2 = false) ∧ ((run (start L m) ops).getRoles u).2 = [] := by
  rw [start_eq]
  obtain ⟨h1, -, h3, -, h5⟩ := run_inv (s := fresh L (some m)) ht (fresh_inv L _) ops hops
  have ht' : Trans (run (fresh L (some m)) ops).mtch := h3 ▸ ht
  have hno : ∀ y, ¬ EStar (run (fresh L (some m)) ops).mtch (run (fresh L (some m)) ops).allLinks u y := by
    rintro y ⟨a, hab, hx⟩
    have := hu a y (by simpa [inForce, fresh] using (h5 _).mp hab)
    rw [h3, mtch_fresh, this.2] at hx
    exact hx.elim this.1 Bool.false_ne_true
  refine ⟨fun r hr => ?_, List.eq_nil_iff_forall_not_mem.mpr fun y hy => hno y ((getRoles_iff ht' h1 u y).mp hy)⟩
  rw [Bool.eq_false_iff]
  intro hl
  obtain ⟨n, -, p⟩ := (hasLink_iff_pathR ht' h1 u r).mp hl
  cases p with
  | refl => exact hr rfl
  | step he _ => exact hno _ he

/-- removing an assignment removes exactly the grants it gave: afterwards the effective edges are those of the
    remaining assignments (a grant shared with another assignment stays, F10), and the call does not raise -/
theorem pattern_delete {s : RM} (ht : Trans s.mtch) (h : Inv s) (a b u r : Name) :
    (s.deleteLink a b).2 = none ∧
    (((s.deleteLink a b).1.hasLink u r).2 = true ↔
      ∃ n, n < s.maxLevel ∧ PathR (EStar s.mtch (s.allLinks.filter (· != (a, b)))) u r n) := by
  obtain ⟨h1, h2, -, -, h5⟩ := deleteLink_inv ht h a b
  refine ⟨h2, ?_⟩
  rw [hasLink_iff_pathR (by simpa using ht) h1, deleteLink_mtch, deleteLink_maxLevel]
  simp only [PathR.congr (EStar_congr (L' := s.allLinks.filter (· != (a, b))) fun l => (h5 l).trans (by simp))]

/-- `key_match2` restricted to the names `/b/*`, `/b/:id`, `/b/1`, `/b/1/2`, `g1`, `g2` (its truth table) -/
def km2 : MatchFn := fun k p =>
  k == p ||
  [("/b/1", "/b/*"), ("/b/1", "/b/:id"), ("/b/1/2", "/b/*"), ("/b/:id", "/b/*"), ("/b/*", "/b/:id")].contains (k, p)

/-- `/b/1/2` matches `/b/*`, `/b/*` matches `/b/:id`, `/b/1/2` does not match `/b/:id` -/
theorem km2_not_trans : ¬ Trans km2 := fun h =>
  absurd (h "/b/1/2" "/b/*" "/b/:id" (by decide +kernel) (by decide +kernel)) (by decide +kernel)

/-- Negative witness for `Trans` (F22, open), on the model of the code: the same two assignments, the same final
    query — the answer depends on whether `/b/1/2` was first seen before or after them, and first seen after them it
    holds `g1` although it does not match `/b/:id`. -/
theorem nontransitive_order_dependent :
    ((run (start 10 km2) [.add "/b/:id" "g1", .add "/b/*" "g2"]).hasLink "/b/1/2" "g1").2 = true ∧
    ((run (start 10 km2) [.has "/b/1/2" "g1", .add "/b/:id" "g1", .add "/b/*" "g2"]).hasLink "/b/1/2" "g1").2 = false ∧
    ¬ EStar km2 [("/b/:id", "g1"), ("/b/*", "g2")] "/b/1/2" "g1" := by
  refine ⟨by decide +kernel, by decide +kernel, ?_⟩
  rintro ⟨a, ha, hx⟩
  simp only [List.mem_cons, Prod.mk.injEq, List.not_mem_nil, or_false] at ha
  rcases ha with ⟨rfl, _⟩ | ⟨_, h2⟩
  · revert hx; decide
  · revert h2; decide

/-- F10's history: two overlapping grants, deleting one keeps the other's — in both orders — and the second delete
    does not raise -/
example :
    let s := run (start 10 km2) [.add "/b/:id" "g1", .add "/b/1" "g1"]
    ((s.deleteLink "/b/:id" "g1").1.hasLink "/b/1" "g1").2 = true ∧
    ((s.deleteLink "/b/1" "g1").1.hasLink "/b/1" "g1").2 = true ∧
    (((s.deleteLink "/b/1" "g1").1.deleteLink "/b/:id" "g1").2 = none) ∧
    ((((s.deleteLink "/b/1" "g1").1.deleteLink "/b/:id" "g1").1.hasLink "/b/1" "g1").2 = false) := by decide +kernel


theorem star_trans : Trans (fun k p => p == "*" || k == p) := by
  intro n p a h1 h2
  simp only [Bool.or_eq_true, beq_iff_eq] at *
  rcases h2 with h2 | h2
  · exact Or.inl h2
  · subst h2; exact h1
example : PlainRoles (fun k p => p == "*" || k == p) [.add "*" "g1", .has "x" "g1", .add "g1" "g2", .del "*" "g1"] := by
  intro a b hab n hn
  simp only [List.mem_cons, Op.add.injEq, reduceCtorEq, List.not_mem_nil, or_false, false_or] at hab
  rcases hab with ⟨_, rfl⟩ | ⟨_, rfl⟩ <;> simpa using hn
example : ((run (start 10 (fun k p => p == "*" || k == p)) [.has "x" "g1", .add "*" "g1", .add "g1" "g2"]).hasLink "x" "g2").2 = true := by
  decide +kernel

/-- `DomainManager` with ANY domain matching function `dm` (not even reflexive: `DM.affected` counts a domain's own
    manager, F36) and any transitive name matching function: after ANY history of adds, deletes, queries and clears,
    `has_link(u, r, d)` ⇔ bounded reachability over the effective edges of the assignments recorded for `d` itself or
    for a domain pattern `d'` that `d` matches (`dm d d'`), cached or not; and the records in force are those the
    history says (in particular a delete removes exactly its own record: a grant also recorded for another matching
    domain stays). -/
theorem domain_pattern_iff (L : Nat) (mf dm : MatchFn) (ht : Trans mf)
    (ops : List DOp) (hops : DPlainRoles mf ops) (u r d : Name) (s : DM)
    (hs : s = drun (dinit L mf (some dm)) ops) :
    ((s.hasLink u r d).2 = true ↔
      ∃ n, n < L ∧ PathR (fun x y => ∃ a d', (d' = d ∨ dm d d' = true) ∧ s.recorded d' (a, y) ∧
                                            (x = a ∨ mf x a = true)) u r n) ∧
    (∀ d' l, s.recorded d' l ↔ dforce (fun _ _ => False) ops d' l) := by
  obtain ⟨h1, h2, h3, h4, h5, _⟩ := drun_inv (dinit_inv L mf (some dm) ht) ops hops
  rw [← hs] at h1 h2 h3 h4 h5
  have h2' : s.dmatchFn = some dm := h2
  have h3' : s.matchFn = mf := h3
  have h4' : s.maxLevel = L := h4
  refine ⟨?_, fun d' l => by rw [h5, dinit_recorded]⟩
  rw [dm_hasLink_iff h1, h4']
  simp only [DM.covers, h2', Option.some.injEq, exists_eq_left', h3']

def starDom : MatchFn := fun d p => p == "*" || d == p

/-- F23's history: the same link recorded for `d1` and for `*`, deleting the `*` record keeps the grant in the
    cached `d1`; a link recorded only for `*` applies in the cached `d1`, and not in the cached `d2` once it is
    deleted; one recorded for `d1` does not apply in `*` -/
example :
    let eq : MatchFn := fun a b => a == b
    ((drun (dinit 10 eq (some starDom)) [.add "a" "r" "d1", .add "a" "r" "*", .has "a" "r" "d1", .del "a" "r" "*"]).hasLink "a" "r" "d1").2 = true ∧
    ((drun (dinit 10 eq (some starDom)) [.has "a" "r" "d1", .add "a" "r" "*"]).hasLink "a" "r" "d1").2 = true ∧
    ((drun (dinit 10 eq (some starDom)) [.has "a" "r" "d1", .add "a" "r" "*", .has "a" "r" "d2", .del "a" "r" "*"]).hasLink "a" "r" "d2").2 = false ∧
    ((drun (dinit 10 eq (some starDom)) [.add "a" "r" "d1"]).hasLink "a" "r" "*").2 = false := by
  decide +kernel


end Casbin.C14
