import CasbinV.Props.C09
/-!
# C09 (batch update) — `update_policies` keeps the store mirroring memory

Memory replaces in place, position by position (`acc.set (l.idxOf old) new`); the faithful adapter rewrites every stored
rule that is the old side of a pair.  With a duplicate-free rule list and pairwise different old rules these coincide
(`C06.foldl_set_eq_map`, which reaches this file through `C06.updateMany_refines` in `Commits.adapter_agrees`), and a
batch naming an old rule twice is refused.  `mirror_step` does not list the batch update; `mirror_change` covers it.
-/
namespace Casbin.Enf.C09
open Casbin.Policy

/-- `update_policies` keeps the mirror, whatever the batch: a call naming an old rule twice is refused before the
    adapter is told anything (F37), so a successful call has pairwise different old rules -/
theorem mirror_updateMany (cfg : Cfg) (s : St) (olds news : List Rule) (had : cfg.hasAdapter = true)
    (hsave : s.autoSave = true) (hm : Mirror s) (hd : s.pol.p.Nodup) :
    Mirror (step cfg s (.updateMany olds news)).1 :=
  mirror_change cfg s _ had hsave hm rfl fun ch hc => by cases hc; exact hd

/-- a successful batch update through the adapter; the call naming the same old rule twice (positional replacement
    would keep the last pair, the adapter's rewriting the first) is refused with memory and store untouched -/
example : (step { gCount := 2, g2Count := 0, hasAdapter := true, hasWatcher := false, watcherEx := false, watcherUpd := false }
      { pol := { p := [["a"], ["b"]] }, store := { p := [["a"], ["b"]] } } (.updateMany [["a"], ["b"]] [["b"], ["c"]])).1.pol.p = [["b"], ["c"]] ∧
    (step { gCount := 2, g2Count := 0, hasAdapter := true, hasWatcher := false, watcherEx := false, watcherUpd := false }
      { pol := { p := [["a"], ["b"]] }, store := { p := [["a"], ["b"]] } } (.updateMany [["a"], ["b"]] [["b"], ["c"]])).1.store.p = [["b"], ["c"]] := by decide
example : (step { gCount := 2, g2Count := 0, hasAdapter := true, hasWatcher := false, watcherEx := false, watcherUpd := false }
      { pol := { p := [["a"], ["b"]] }, store := { p := [["a"], ["b"]] } } (.updateMany [["a"], ["a"]] [["x"], ["y"]])).1.pol.p = [["a"], ["b"]] ∧
    (step { gCount := 2, g2Count := 0, hasAdapter := true, hasWatcher := false, watcherEx := false, watcherUpd := false }
      { pol := { p := [["a"], ["b"]] }, store := { p := [["a"], ["b"]] } } (.updateMany [["a"], ["a"]] [["x"], ["y"]])).1.store.p = [["a"], ["b"]] := by decide

end Casbin.Enf.C09
