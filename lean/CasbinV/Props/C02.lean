import CasbinV.Model.Matcher
import CasbinV.Model.MatcherTokens
import CasbinV.Proofs.ListFacts
import CasbinV.Proofs.EvalVector
/-!
# C02 — a rule matches exactly when the matcher expression is true of request and rule

The pipeline from the model text to the evaluated expression is textual. The theorems here say that every
textual step maps *every layout* of *every token sequence* to a layout of the translated token sequence
(so the result cannot depend on how the matcher is spaced), under explicit decidable hypotheses on the token
sequence; the points excluded by the hypotheses are exhibited by evaluated witnesses and run against the real
code by the harness. Subject: `Model/Matcher.lean` (tied to the code by exhaustive small-scope and random
differential execution, function by function and for the pipeline as a whole).

The steps of this file are the *per-text* steps: the pipeline applies them to the texts outside string literals
(`split_literals`, F01b). `Props/C02Lit.lean` lifts every layout theorem of this file to token sequences
with string literals, with no hypothesis on what the literals contain.
-/
namespace Casbin.C02
open Casbin.Matcher

/-! ## `str.replace` of a doubled character -/

theorem replace2_cons_ne (a : Char) (R : Str) (c : Char) (r : Str) (hc : c ≠ a) :
    replace2 a R (c :: r) = c :: replace2 a R r := by
  cases r with
  | nil => simp [replace2]
  | cons d rest => simp [replace2, hc]

theorem replace2_pair (a : Char) (R r : Str) : replace2 a R (a :: a :: r) = R ++ replace2 a R r := by
  simp [replace2]

theorem replace2_noa (a : Char) (R x y : Str) (h : a ∉ x) :
    replace2 a R (x ++ y) = x ++ replace2 a R y := by
  induction x with
  | nil => rfl
  | cons c cs ih =>
    rw [List.mem_cons, not_or] at h
    rw [List.cons_append, replace2_cons_ne _ _ _ _ (Ne.symm h.1), ih h.2, List.cons_append]

/-! ## `re.sub(r"!(?!=)", …)` -/

theorem subNot_cons_ne (R : Str) (c : Char) (r : Str) (hc : c ≠ '!') :
    subNot R (c :: r) = c :: subNot R r := by
  simp [subNot, hc]

theorem subNot_nobang (R x y : Str) (h : '!' ∉ x) : subNot R (x ++ y) = x ++ subNot R y := by
  induction x with
  | nil => rfl
  | cons c cs ih =>
    rw [List.mem_cons, not_or] at h
    rw [List.cons_append, subNot_cons_ne _ _ _ (Ne.symm h.1), ih h.2, List.cons_append]

theorem subNot_ne (R r : Str) : subNot R ('!' :: '=' :: r) = '!' :: '=' :: subNot R r := by
  rw [subNot, if_pos rfl, subNot_cons_ne _ _ _ (by decide)]

theorem startsEq_cons (c : Char) (x : Str) : startsEq (c :: x) = decide (c = '=') := by
  unfold startsEq
  split <;> simp_all

theorem subNot_bang (R r : Str) (h : startsEq r = false) : subNot R ('!' :: r) = R ++ subNot R r := by
  rw [subNot, if_pos rfl]
  rintro _ rfl
  cases h


/-! ## `_get_expression` maps every layout to a valid layout of the translated tokens

No pass looks beyond the token it rewrites (the look-ahead of `!` apart), so `getExpression` is computed token by
token: `getExpression (t.src ++ z) = t' ++ getExpression z`. -/

theorem getExpression_noOp (x z : Str) (h : x.any opChar = false) :
    getExpression (x ++ z) = x ++ getExpression z := by
  have no {c : Char} (hc : opChar c = true) : c ∉ x := fun hm => List.any_eq_false.mp h c hm hc
  unfold getExpression
  rw [replace2_noa _ _ _ _ (no rfl), replace2_noa _ _ _ _ (no rfl), subNot_nobang _ _ _ (no rfl)]

theorem blank_noOp {g : Str} (h : g.all isBlank = true) : g.any opChar = false :=
  List.any_eq_false.mpr fun c hc ho => by
    have hb := List.all_eq_true.mp h c hc
    simp only [opChar, Bool.or_eq_true, beq_iff_eq] at ho
    rcases ho with (rfl | rfl) | rfl <;> cases hb

theorem getExpression_and (z : Str) : getExpression (Tok.andOp.src ++ z) = andR ++ getExpression z := by
  unfold getExpression
  rw [Tok.src, List.cons_append, List.cons_append, List.nil_append, replace2_pair,
    replace2_noa _ _ _ _ (by decide), subNot_nobang _ _ _ (by decide)]

theorem getExpression_or (z : Str) : getExpression (Tok.orOp.src ++ z) = orR ++ getExpression z := by
  unfold getExpression
  rw [replace2_noa '&' _ _ _ (by decide), Tok.src, List.cons_append, List.cons_append, List.nil_append,
    replace2_pair, subNot_nobang _ _ _ (by decide)]

theorem getExpression_ne (z : Str) : getExpression (Tok.neOp.src ++ z) = Tok.neOp.src ++ getExpression z := by
  unfold getExpression
  rw [replace2_noa '&' _ _ _ (by decide), replace2_noa '|' _ _ _ (by decide)]
  exact subNot_ne ..

theorem startsEq_replace2 (a e : Char) (R z : Str) (he : e ≠ '=') (h : startsEq z = false) :
    startsEq (replace2 a (e :: R) z) = false := by
  match z with
  | [] => rfl
  | [c] => exact h
  | c :: d :: r =>
    rw [replace2]
    split
    · simpa [startsEq_cons] using he
    · simpa [startsEq_cons] using h

theorem getExpression_not (z : Str) (h : startsEq z = false) :
    getExpression (Tok.notOp.src ++ z) = notR ++ getExpression z := by
  unfold getExpression
  rw [replace2_noa '&' _ _ _ (by decide), replace2_noa '|' _ _ _ (by decide)]
  exact subNot_bang _ _ (startsEq_replace2 _ _ _ _ (by decide) (startsEq_replace2 _ _ _ _ (by decide) h))

theorem wfToks_cons {t : Tok} {g : Str} {rest : List (Tok × Str)} (h : wfToks ((t, g) :: rest) = true) :
    t.wf = true ∧ g.all isBlank = true ∧ wfToks rest = true ∧
    ∀ q ∈ rest.head?, (t = .notOp → g = [] → startsEq q.1.src = false) ∧
      (t.wordySrc = true → g = [] → q.1.wordySrc = false ∧ q.1 ≠ .notOp) := by
  -- Boolean unpacking only: `wfToks` is this conjunction with `&&`, each implication a test `!(… && g.isEmpty) || !…`
  unfold wfToks at h
  cases rest <;> grind

theorem startsEq_append {x : Str} (z : Str) (h : x ≠ []) : startsEq (x ++ z) = startsEq x := by
  cases x with
  | nil => exact absurd rfl h
  | cons c x => rw [List.cons_append, startsEq_cons, startsEq_cons]

theorem src_ne_nil {t : Tok} (h : t.wf = true) : t.src ≠ [] := by
  cases t <;> simp_all [Tok.wf, Tok.src]

/-- a lexeme (a token the passes do not translate, `!=` apart) contains no operator character -/
theorem wf_noOp {t : Tok} (hw : t.wf = true) (hs : t.py = t.src) (hn : t ≠ .neOp) : t.src.any opChar = false := by
  cases t with
  | ref k suf f =>
    simp only [Tok.wf, Bool.and_eq_true, Bool.not_eq_eq_eq_not, Bool.not_true] at hw
    simp only [Tok.src, List.any_cons, List.any_append, hw.1.1, hw.1.2, hw.2, Bool.or_false, Bool.false_or]
    rfl
  | word s | other s =>
    simp only [Tok.wf, Bool.and_eq_true, Bool.not_eq_eq_eq_not, Bool.not_true] at hw
    exact hw.1
  | neOp => exact absurd rfl hn
  | _ => cases hs

theorem getExpression_render (ts : List (Tok × Str)) (h : wfToks ts = true) :
    getExpression (render ts) = renderPy (ts.map pad) := by
  induction ts with
  | nil => rfl
  | cons p r ih =>
    obtain ⟨t, g⟩ := p
    have ⟨hw, hb, hr, hadj⟩ := wfToks_cons h
    have hg := getExpression_noOp g (render r) (blank_noOp hb)
    rw [render, List.append_assoc, List.map_cons]
    cases t with
    | andOp => rw [getExpression_and, hg, ih hr]; rfl
    | orOp => rw [getExpression_or, hg, ih hr]; rfl
    | neOp => rw [getExpression_ne, hg, ih hr]; rfl
    | notOp =>
      -- `!` is not followed by `=`: the gap is blank, or empty and the next token does not start with `=`
      have hse : startsEq (g ++ render r) = false := by
        cases g with
        | cons c g' => simpa [startsEq_cons] using fun e : c = '=' => by simp [e, isBlank] at hb
        | nil =>
          cases r with
          | nil => rfl
          | cons q r' =>
            rw [List.nil_append, render, List.append_assoc, startsEq_append _ (src_ne_nil (wfToks_cons hr).1)]
            exact (hadj q rfl).1 rfl rfl
      rw [getExpression_not _ hse, hg, ih hr]; rfl
    | _ =>
      rw [getExpression_noOp _ _ (wf_noOp hw rfl nofun), hg, ih hr]
      simp [pad, renderPy, Tok.py]

theorem pySeparated_cons (p q : Str × Tok × Str) (r : List (Str × Tok × Str)) :
    pySeparated (p :: q :: r) =
      ((!(p.2.1.wordy && q.2.1.wordy) || !(p.2.2 ++ q.1).isEmpty) && pySeparated (q :: r)) := rfl

/-- two adjacent word-like tokens of the translated layout are separated: `and`, `or`, `not` bring their own
    blanks; otherwise both are word-like in the source (or the second is `!`) and `wfToks` asks for a gap -/
theorem pad_sep (t t' : Tok) (g g' : Str)
    (h : t.wordySrc = true → g = [] → t'.wordySrc = false ∧ t' ≠ .notOp) :
    (!((pad (t, g)).2.1.wordy && (pad (t', g')).2.1.wordy) ||
      !((pad (t, g)).2.2 ++ (pad (t', g')).1).isEmpty) = true := by
  cases t with
  | ref | word =>
    cases g with
    | cons => simp [pad]
    | nil => have ⟨h1, h2⟩ := h rfl rfl; cases t' <;> simp_all [pad, Tok.wordy, Tok.wordySrc]
  | _ => simp [pad, Tok.wordy]

theorem pad_separated (ts : List (Tok × Str)) (h : wfToks ts = true) : pySeparated (ts.map pad) = true := by
  induction ts with
  | nil => rfl
  | cons p r ih =>
    obtain ⟨t, g⟩ := p
    have ⟨_, _, hr, hadj⟩ := wfToks_cons h
    cases r with
    | nil => cases t <;> rfl
    | cons q r' =>
      rw [List.map_cons, List.map_cons, pySeparated_cons, pad_sep t q.1 g q.2 (hadj q rfl).2,
        ← List.map_cons, ih hr]
      rfl

/-- C02: for every token sequence and every layout of it (`wfToks`: lexemes contain no
    operator character, gaps are blanks, no `!` directly before `=`, words are not glued), the text
    `_get_expression` hands to the evaluator is a layout of the translated tokens (`&& ↦ and`, `|| ↦ or`,
    `! ↦ not`) in which word-like tokens are separated. -/
theorem getExpression_layout (ts : List (Tok × Str)) (h : wfToks ts = true) :
    getExpression (render ts) = renderPy (ts.map pad) ∧ pySeparated (ts.map pad) = true :=
  ⟨getExpression_render ts h, pad_separated ts h⟩

def exampleToks : List (Tok × Str) :=
  [(.ref 'r' [] "sub".toList, []), (.other "==".toList, []), (.ref 'p' [] "sub".toList, []), (.andOp, []),
   (.notOp, []), (.other "(".toList, []), (.ref 'r' [] "obj".toList, []), (.neOp, []),
   (.ref 'p' [] "obj".toList, []), (.other ")".toList, []), (.orOp, []), (.word "g".toList, []),
   (.other "(".toList, []), (.ref 'r' [] "sub".toList, []), (.other ",".toList, []),
   (.other "\"x\"".toList, []), (.other ")".toList, [])]

example : wfToks exampleToks = true := by decide +kernel
example : String.ofList (render exampleToks) = "r.sub==p.sub&&!(r.obj!=p.obj)||g(r.sub,\"x\")" := by
  -- compared as character lists: an equation between `String`s is decided on their UTF-8 bytes
  apply String.toList_injective
  unfold exampleToks; eval_vector
example : String.ofList (getExpression (render exampleToks)) =
    "r.sub==p.sub and not (r.obj!=p.obj) or g(r.sub,\"x\")" := by
  apply String.toList_injective
  unfold exampleToks; eval_vector

/-- F01: with the replacement texts `"and"`, `"or"` (`getExpressionUnrepaired`) the keyword is glued to its
    neighbours, so the output is *not* the translated layout for the layout without blanks — `a&&b` becomes `aandb`. -/
theorem unrepaired_glues :
    getExpressionUnrepaired (render [(.word ['a'], []), (.andOp, []), (.word ['b'], [])]) = "aandb".toList ∧
    getExpression (render [(.word ['a'], []), (.andOp, []), (.word ['b'], [])]) = "a and b".toList ∧
    getExpressionUnrepaired (render [(.word ['a'], []), (.orOp, []), (.notOp, []), (.word ['b'], [])]) = "aornot b".toList := by
  eval_vector

/-- outside `wfToks`: the per-text step rewrites an operator character wherever it stands, here inside a quoted text.
    The pipeline applies it to the texts *outside* string literals only (F01b): `Props/C02Lit.lean`,
    `getExpressionL_layout` (no hypothesis on literal bodies) and the positive witness `literal_not_rewritten`. -/
theorem literal_rewritten :
    getExpression (render [(.other "\"a&&b\"".toList, [])]) = "\"a and b\"".toList ∧
    wfToks [(.other "\"a&&b\"".toList, [])] = false := by
  eval_vector

/-! ## `remove_comments` -/

/-- C02: whatever follows the first `#` is dropped and the text before it is stripped;
    a text without `#` is returned as it is (not stripped) -/
theorem removeComments_prefix (x y : Str) (h : '#' ∉ x) :
    removeComments (x ++ '#' :: y) = strip x ∧ removeComments x = x := by
  constructor
  · unfold removeComments
    have : (x ++ '#' :: y).contains '#' = true := by simp
    rw [if_pos this, takeWhile_ne_append _ h]
  · unfold removeComments
    simp [h]

example : '#' ∉ "r_sub == p_sub  ".toList := by eval_vector
example : String.ofList (removeComments "r_sub == p_sub  # the matcher".toList) = "r_sub == p_sub" := by
  apply String.toList_injective
  eval_vector

/-- the per-text step cuts at any `#`, here inside a quoted text. The pipeline's `removeCommentsL` looks for `#`
    outside string literals only (F01b): `Props/C02Lit.lean`, `removeCommentsL_prefix`, `hash_in_literal_kept`. -/
theorem hash_in_literal_cuts : removeComments "r_obj == \"a#b\"".toList = "r_obj == \"a".toList := by eval_vector

/-! ## result typing -/

/-- C02: `resultMatches`, the transcription of the `isinstance` chain of `enforce_ex`, read as
    a table: `bool` as it is, a number iff it is non-zero, anything else raises -/
theorem matcher_result_typing (k : ResKind) :
    resultMatches k = (match k with
      | .bool b => .ok b | .float nz => .ok nz | .int nz => .ok nz | .other => .error .resultType) := by
  cases k <;> rfl

example : resultMatches (.int true) = .ok true := rfl

/-! ## `escape_assertion` maps every layout to the same layout of the renamed tokens -/

theorem lastWord_append (pw : Bool) (x y : Str) : lastWord pw (x ++ y) = lastWord (lastWord pw x) y := by
  unfold lastWord
  rw [List.getLast?_append]
  cases y.getLast? <;> rfl

theorem lastWord_cons (pw : Bool) (c : Char) (t : Str) : lastWord pw (c :: t) = lastWord (isWord c) t :=
  lastWord_append pw [c] t

theorem stops_drop (t y : Str) (h : stopsWithin t = true) :
    ∃ c r, (t ++ y).dropWhile isDigit = c :: r ∧ c ≠ '.' := by
  unfold stopsWithin at h
  split at h
  · contradiction
  · next c r e => exact ⟨c, r ++ y, by simp [List.dropWhile_append, e], by simpa using h⟩

theorem stops_noprefix (suf t y : Str) (hs : suf.all isDigit = true) (h : stopsWithin t = true) :
    (suf ++ ['.']).isPrefixOf (t ++ y) = false := by
  obtain ⟨c, r, e, hc⟩ := stops_drop t y h
  apply Bool.eq_false_iff.mpr
  intro hp
  obtain ⟨w, hw⟩ := List.isPrefixOf_iff_prefix.mp hp
  -- a text starting with `suf.` has its digit run end at the dot
  rw [← hw, List.append_assoc, List.singleton_append, (dropWhile_all isDigit suf '.' _ hs (by decide)).1] at e
  exact hc (List.cons.inj e).1.symm

theorem refSuffixAt_quiet (k c : Char) (t y : Str) (h : (c != k || stopsWithin t) = true) :
    refSuffixAt k (c :: (t ++ y)) = none := by
  by_cases hc : c = k
  · obtain ⟨d, r, e, hd⟩ := stops_drop t y (by simpa [hc] using h)
    simp only [refSuffixAt, hc, ↓reduceIte, e]
    split
    · next heq => exact absurd (List.cons.inj heq).1 hd
    · rfl
  · simp [refSuffixAt, hc]

theorem quiet_sub (k : Char) (suf : Str) (hs : suf.all isDigit = true) (x y : Str) (pw : Bool)
    (h : quiet k pw x = true) :
    subRef k suf 0 pw (x ++ y) = x ++ subRef k suf 0 (lastWord pw x) y := by
  induction x generalizing pw with
  | nil => rfl
  | cons c t ih =>
    simp only [quiet, Bool.and_eq_true, Bool.or_eq_true] at h
    have cond : (!pw && c == k && (suf ++ ['.']).isPrefixOf (t ++ y)) = false := by
      rcases h.1 with (h1 | h1) | h1
      · simp [h1]
      · simp [bne_iff_ne.mp h1]
      · simp [stops_noprefix suf t y hs h1]
    simp only [List.cons_append, subRef, cond, lastWord_cons, Bool.false_eq_true, ↓reduceIte, ih _ h.2]

theorem quiet_search (k : Char) (x y : Str) (pw : Bool) (h : quiet k pw x = true) :
    searchRef k pw (x ++ y) = searchRef k (lastWord pw x) y := by
  induction x generalizing pw with
  | nil => rfl
  | cons c t ih =>
    simp only [quiet, Bool.and_eq_true] at h
    have cond : (if pw then none else refSuffixAt k (c :: (t ++ y))) = none := by
      cases pw with
      | true => rfl
      | false => simpa using refSuffixAt_quiet k c t y (by simpa using h.1)
    simp only [List.cons_append, searchRef, cond, lastWord_cons]
    exact ih _ h.2

theorem sub_skip (k : Char) (suf x : Str) (d : Char) (z : Str) (pw : Bool) :
    subRef k suf (x.length + 1) pw (x ++ d :: z) = x ++ '_' :: subRef k suf 0 false z := by
  induction x generalizing pw with
  | nil => simp [subRef]
  | cons c x ih => simp [subRef, ih]

theorem ref_sub (k : Char) (suf : Str) (hs : suf.all isDigit = true) (f y : Str) (hf : quiet k false f = true) :
    subRef k suf 0 false ((Tok.ref k suf f).src ++ y) =
      (escK k (.ref k suf f)).src ++ subRef k suf 0 (lastWord false (Tok.ref k suf f).src) y := by
  have pre : (suf ++ ['.']).isPrefixOf (suf ++ '.' :: (f ++ y)) = true :=
    List.isPrefixOf_iff_prefix.mpr ⟨f ++ y, by simp⟩
  simp only [Tok.src, escK, ↓reduceIte, List.cons_append, List.append_assoc, subRef, Bool.not_false,
    Bool.true_and, beq_self_eq_true, pre, lastWord_cons, lastWord_append]
  rw [sub_skip, quiet_sub k suf hs f y false hf]
  rfl

theorem ref_search (k : Char) (suf : Str) (hs : suf.all isDigit = true) (f y : Str) :
    searchRef k false ((Tok.ref k suf f).src ++ y) = some suf := by
  have ⟨e1, e2⟩ := dropWhile_all isDigit suf '.' (f ++ y) hs (by decide)
  simp [Tok.src, searchRef, refSuffixAt, e1, e2]

theorem mapToks_cons (fn : Tok → Tok) (t : Tok) (g : Str) (rest : List (Tok × Str)) :
    mapToks fn ((t, g) :: rest) = (fn t, g) :: mapToks fn rest := rfl

/-- the `k`-references are the tokens that `escK k` changes -/
theorem hasRef_cons (k : Char) (t : Tok) (g : Str) (rest : List (Tok × Str)) :
    hasRef k ((t, g) :: rest) = (escK k t != t || hasRef k rest) := by
  cases t with
  | ref k' s f => by_cases e : k' = k <;> simp [hasRef, escK, e]
  | _ => simp [hasRef, escK]

theorem okFor_cons {k : Char} {suf : Str} {pw : Bool} {t : Tok} {g : Str} {rest : List (Tok × Str)}
    (h : okFor k suf pw ((t, g) :: rest) = true) :
    ((∃ f, t = .ref k suf f ∧ pw = false ∧ suf.all isDigit = true ∧ quiet k false f = true) ∨
      (escK k t = t ∧ quiet k pw t.src = true)) ∧
    quiet k (lastWord pw t.src) g = true ∧ okFor k suf (lastWord (lastWord pw t.src) g) rest = true := by
  simp only [okFor, Bool.and_eq_true] at h
  refine ⟨?_, h.1.2, h.2⟩
  cases t with
  | ref k' s f =>
    by_cases e : k' = k
    · subst e
      simp only [↓reduceIte, Bool.and_eq_true, Bool.not_eq_eq_eq_not, Bool.not_true, beq_iff_eq] at h
      obtain ⟨⟨⟨⟨hpw, rfl⟩, hd⟩, hf⟩, -⟩ := h.1
      exact .inl ⟨f, rfl, hpw, hd, hf⟩
    · exact .inr ⟨by simp [escK, e], by simpa [e] using h.1.1⟩
  | _ => exact .inr ⟨rfl, h.1.1⟩

theorem okFor_sub (k : Char) (suf : Str) (hs : suf.all isDigit = true) (ts : List (Tok × Str)) (pw : Bool)
    (h : okFor k suf pw ts = true) :
    subRef k suf 0 pw (render ts) = render (mapToks (escK k) ts) := by
  induction ts generalizing pw with
  | nil => rfl
  | cons p rest ih =>
    obtain ⟨t, g⟩ := p
    obtain ⟨ht, hg, hr⟩ := okFor_cons h
    rw [mapToks_cons, render, render, List.append_assoc, List.append_assoc]
    rcases ht with ⟨f, rfl, rfl, -, hf⟩ | ⟨he, hq⟩
    · rw [ref_sub k suf hs f _ hf, quiet_sub k suf hs g _ _ hg, ih _ hr]
    · rw [quiet_sub k suf hs _ _ _ hq, quiet_sub k suf hs g _ _ hg, ih _ hr, he]

theorem okFor_search (k : Char) (suf : Str) (ts : List (Tok × Str)) (pw : Bool)
    (h : okFor k suf pw ts = true) :
    searchRef k pw (render ts) = if hasRef k ts = true then some suf else none := by
  induction ts generalizing pw with
  | nil => rfl
  | cons p rest ih =>
    obtain ⟨t, g⟩ := p
    obtain ⟨ht, hg, hr⟩ := okFor_cons h
    rw [hasRef_cons, render, List.append_assoc]
    rcases ht with ⟨f, rfl, rfl, hd, -⟩ | ⟨he, hq⟩
    · rw [ref_search k suf hd]
      simp [escK]
    · rw [quiet_search k _ _ _ hq, quiet_search k g _ _ hg, ih _ hr]
      simp [he]

theorem noRef_map (k : Char) (ts : List (Tok × Str)) (h : hasRef k ts = false) : mapToks (escK k) ts = ts := by
  induction ts with
  | nil => rfl
  | cons p rest ih =>
    obtain ⟨t, g⟩ := p
    simp only [hasRef_cons, Bool.or_eq_false_iff, bne_eq_false_iff_eq] at h
    rw [mapToks_cons, h.1, ih h.2]

/-- one kind (`p` or `r`): every reference `k{suf}.field` becomes the identifier `k{suf}_field`, gaps and all
    other tokens are untouched -/
theorem escapeKind_layout (k : Char) (suf : Str) (hs : suf.all isDigit = true) (ts : List (Tok × Str))
    (h : okFor k suf false ts = true) :
    escapeKind k (render ts) = render (mapToks (escK k) ts) := by
  unfold escapeKind
  rw [okFor_search k suf ts false h]
  cases hr : hasRef k ts
  · rw [noRef_map k ts hr]
    rfl
  · exact okFor_sub k suf hs ts false h

/-- C02: for every token sequence in which all policy references carry one suffix
    `sp` and all request references one suffix `sr` and nothing else looks like a reference (both are the decidable
    `okFor`; `h2` speaks of the output of the `p` pass, which is what the `r` pass runs over), and for every layout of
    it, `escape_assertion` yields the same layout of the renamed tokens. -/
theorem escapeAssertion_layout (sp sr : Str) (hp : sp.all isDigit = true) (hr : sr.all isDigit = true)
    (ts : List (Tok × Str)) (h1 : okFor 'p' sp false ts = true)
    (h2 : okFor 'r' sr false (mapToks (escK 'p') ts) = true) :
    escapeAssertion (render ts) = render (mapToks escTok ts) := by
  unfold escapeAssertion
  rw [escapeKind_layout 'p' sp hp ts h1, escapeKind_layout 'r' sr hr _ h2]
  congr 1
  simp only [mapToks, List.map_map]
  rfl

/-- `r2.sub == p2.sub && regexMatch(r2.act, "read")`: an identifier and a literal that start with `r` -/
def exampleEsc : List (Tok × Str) :=
  [(.ref 'r' ['2'] "sub".toList, [' ']), (.other "==".toList, [' ']), (.ref 'p' ['2'] "sub".toList, [' ']),
   (.andOp, [' ']), (.word "regexMatch".toList, []), (.other "(".toList, []), (.ref 'r' ['2'] "act".toList, []),
   (.other ",".toList, [' ']), (.other "\"read\"".toList, []), (.other ")".toList, [])]

example : okFor 'p' ['2'] false exampleEsc = true ∧ okFor 'r' ['2'] false (mapToks (escK 'p') exampleEsc) = true := by
  unfold exampleEsc; eval_vector
example : String.ofList (escapeAssertion (render exampleEsc)) =
    "r2_sub == p2_sub && regexMatch(r2_act, \"read\")" := by
  apply String.toList_injective
  unfold exampleEsc; eval_vector

/-- outside the hypotheses: the per-text step renames reference-like text wherever it stands, here inside a quoted
    text (first conjunct; the pipeline applies it outside string literals only, F01b: `escapeAssertionL_layout`,
    `literal_not_renamed` in `Props/C02Lit.lean`); and a matcher mixing two suffixes of one kind has only the first
    suffix renamed (third conjunct: the one-suffix condition of `okFor` is a real hypothesis) -/
theorem escape_outside_hypotheses :
    escapeAssertion "r.obj == \"p.txt\"".toList = "r_obj == \"p_txt\"".toList ∧
    okFor 'p' [] false [(.ref 'r' [] "obj".toList, [' ']), (.other "==".toList, [' ']), (.other "\"p.txt\"".toList, [])] = false ∧
    escapeAssertion "p.x == p2.y".toList = "p_x == p2.y".toList := by
  eval_vector

/-! ## `eval()`: detection, argument extraction and splicing — for every placement of white space between
     `eval` and `(` and around the argument (F01c) -/

theorem mismatch_drop (lit s y : Str) (h : mismatch lit s = true) : dropPrefix? lit (s ++ y) = none := by
  fun_induction mismatch lit s with
  | case1 p ps c t ih => grind [dropPrefix?]
  | case2 => simp at h

theorem dropPrefix_eq_some (lit s t : Str) : dropPrefix? lit s = some t ↔ s = lit ++ t := by
  fun_induction dropPrefix? lit s <;> grind

theorem dropPrefix_self (lit z : Str) : dropPrefix? lit (lit ++ z) = some z :=
  (dropPrefix_eq_some ..).mpr rfl

theorem evalAt_noStart (s y : Str) (h : noStart s = true) : evalAt (s ++ y) = none := by
  simp only [noStart, Bool.or_eq_true] at h
  rcases h with h | h
  · simp [evalAt, mismatch_drop _ _ _ h]
  · split at h
    next t hd =>
      obtain rfl := (dropPrefix_eq_some ..).mp hd
      split at h
      next c r hw =>
        -- `(t ++ y).dropWhile isSpace = c :: (r ++ y)`, and `c` is not `(`
        simp only [List.append_assoc, evalAt, dropPrefix_self, List.dropWhile_append, hw, List.isEmpty_cons,
          Bool.false_eq_true, ↓reduceIte, List.cons_append]
        split
        next heq => cases heq; simp at h
        · rfl
      next => simp at h
    next => simp at h

theorem trimmed_dropWhile {x : Str} (h : trimmed x = true) :
    x.dropWhile isSpace = x ∧ x.reverse.dropWhile isSpace = x.reverse := by
  simp only [trimmed, Bool.and_eq_true] at h
  generalize x.reverse = r at h ⊢
  constructor
  · cases x <;> simp_all
  · cases r <;> simp_all

theorem strip_pad (a x b : Str) (ha : a.all isSpace = true) (hb : b.all isSpace = true)
    (hx : trimmed x = true) : strip (a ++ (x ++ b)) = x := by
  have ⟨h1, h2⟩ := trimmed_dropWhile hx
  have hb' : ∀ c ∈ b.reverse, isSpace c = true := by simpa using hb
  rw [strip, lstrip, List.dropWhile_append_of_pos (List.all_eq_true.mp ha), List.dropWhile_append, h1]
  cases x with
  | nil =>
    have : b.dropWhile isSpace = [] := by
      simpa using List.dropWhile_append_of_pos (l₂ := []) (List.all_eq_true.mp hb)
    simp [this, rstrip]
  | cons c x =>
    rw [List.isEmpty_cons, if_neg Bool.false_ne_true, rstrip, List.reverse_append,
      List.dropWhile_append_of_pos hb', h2, List.reverse_reverse]

/-- a call `eval`, white space, `(u)`: the match is `e` and a text `x` (only its length matters to the scanners),
    the group is `u` stripped -/
theorem evalAt_call (w u z : Str) (hw : w.all isSpace = true) (hu : ')' ∉ u) :
    ∃ x, evalWord ++ (w ++ '(' :: (u ++ ')' :: z)) = 'e' :: (x ++ z) ∧
      evalAt ('e' :: (x ++ z)) = some (strip u, x.length) := by
  have e : evalWord ++ (w ++ '(' :: (u ++ ')' :: z)) =
      'e' :: ('v' :: 'a' :: 'l' :: (w ++ '(' :: (u ++ [')'])) ++ z) := by simp [evalWord]
  refine ⟨_, e, ?_⟩
  have ⟨e1, e2⟩ := dropWhile_all isSpace w '(' (u ++ ')' :: z) hw rfl
  have hc : (u ++ ')' :: z).contains ')' = true := by simp
  simp only [← e, evalAt, dropPrefix_self, e1, e2, if_pos hc, takeWhile_ne_append _ hu,
    List.length_cons, List.length_append, List.length_nil]
  congr 2
  omega

/-- what `quietE` says at one position, in the form both scanners test it -/
theorem quietE_cons {pw : Bool} {c : Char} {t : Str} (y : Str) (h : quietE pw (c :: t) = true) :
    (if pw = true then none else evalAt (c :: (t ++ y))) = none ∧ quietE (isWord c) t = true := by
  simp only [quietE, Bool.and_eq_true, Bool.or_eq_true] at h
  refine ⟨?_, h.2⟩
  rcases h.1 with h1 | h1
  · simp [h1]
  · simp [show evalAt (c :: (t ++ y)) = none from evalAt_noStart _ y h1]

theorem quietEnd_cons {pw : Bool} {c : Char} {t : Str} (h : quietEnd pw (c :: t) = true) :
    (if pw = true then none else evalAt (c :: t)) = none ∧ quietEnd (isWord c) t = true := by
  simp only [quietEnd, Bool.and_eq_true, Bool.or_eq_true, Option.isNone_iff_eq_none] at h
  refine ⟨?_, h.2⟩
  rcases h.1 with h1 | h1 <;> simp [h1]

theorem quietE_find (x y : Str) (pw : Bool) (h : quietE pw x = true) :
    findEvals 0 pw (x ++ y) = findEvals 0 (lastWord pw x) y := by
  induction x generalizing pw with
  | nil => simp [lastWord]
  | cons c t ih =>
    have ⟨cond, h2⟩ := quietE_cons y h
    simp only [List.cons_append, findEvals, cond, lastWord_cons]
    exact ih _ h2

theorem quietE_replace (x y : Str) (pw : Bool) (rules : List Str) (h : quietE pw x = true) :
    replaceEvalAux 0 pw (x ++ y) rules = (replaceEvalAux 0 (lastWord pw x) y rules).map (x ++ ·) := by
  induction x generalizing pw with
  | nil => simp [lastWord]
  | cons c t ih =>
    have ⟨cond, h2⟩ := quietE_cons y h
    simp only [List.cons_append, replaceEvalAux, cond, lastWord_cons, ih _ h2, Option.map_map]
    rfl

theorem quietEnd_find (x : Str) (pw : Bool) (h : quietEnd pw x = true) : findEvals 0 pw x = [] := by
  induction x generalizing pw with
  | nil => rfl
  | cons c t ih =>
    have ⟨cond, h2⟩ := quietEnd_cons h
    simp only [findEvals, cond]
    exact ih _ h2

theorem quietEnd_replace (x : Str) (pw : Bool) (rules : List Str) (h : quietEnd pw x = true) :
    replaceEvalAux 0 pw x rules = some x := by
  induction x generalizing pw with
  | nil => rfl
  | cons c t ih =>
    have ⟨cond, h2⟩ := quietEnd_cons h
    simp only [replaceEvalAux, cond, ih _ h2]
    rfl

theorem find_skip (x z : Str) : findEvals x.length false (x ++ z) = findEvals 0 false z := by
  induction x with
  | nil => rfl
  | cons c x ih => simpa [findEvals] using ih

theorem replace_skip (x z : Str) (rules : List Str) :
    replaceEvalAux x.length false (x ++ z) rules = replaceEvalAux 0 false z rules := by
  induction x with
  | nil => rfl
  | cons c x ih => simpa [replaceEvalAux] using ih

theorem find_call {c : Char} {x z name : Str} (h : evalAt (c :: (x ++ z)) = some (name, x.length)) :
    findEvals 0 false (c :: (x ++ z)) = name :: findEvals 0 false z := by
  simp only [findEvals, Bool.false_eq_true, ↓reduceIte, h, find_skip]

theorem replace_call {c : Char} {x z name : Str} (rules : List Str)
    (h : evalAt (c :: (x ++ z)) = some (name, x.length)) :
    replaceEvalAux 0 false (c :: (x ++ z)) rules =
      match rules with
      | [] => none
      | r :: rs => (replaceEvalAux 0 false z rs).map fun out => '(' :: (r ++ ')' :: out) := by
  simp only [replaceEvalAux, Bool.false_eq_true, ↓reduceIte, h, replace_skip]
  rfl

/-- `okEvals` for a text with a call, in the form the scanners use: a quiet text that does not end in a word
    character, then a match (`e` and some `x`) whose group is the name -/
theorem okEvals_cons {pw : Bool} {c : EvalCall} {rest : List EvalCall} {tail : Str}
    (h : okEvals pw (c :: rest) tail = true) :
    ∃ x, renderEvals (c :: rest) tail = c.pre ++ 'e' :: (x ++ renderEvals rest tail) ∧
      evalAt ('e' :: (x ++ renderEvals rest tail)) = some (c.name, x.length) ∧
      quietE pw c.pre = true ∧ lastWord pw c.pre = false ∧ okEvals false rest tail = true := by
  simp only [okEvals, Bool.and_eq_true, Bool.not_eq_eq_eq_not, Bool.not_true] at h
  obtain ⟨⟨⟨⟨⟨⟨⟨hq, hl⟩, h1⟩, h2⟩, h3⟩, hn⟩, ht⟩, hr⟩ := h
  have hu : ')' ∉ c.ws2 ++ (c.name ++ c.ws3) := by
    simpa [not_mem_of_all h2 (a := ')') rfl, not_mem_of_all h3 (a := ')') rfl] using hn
  obtain ⟨x, e, hx⟩ := evalAt_call c.ws1 _ (renderEvals rest tail) h1 hu
  rw [strip_pad _ _ _ h2 h3 ht] at hx
  refine ⟨x, ?_, hx, hq, hl, hr⟩
  rw [← e]
  simp [renderEvals]

/-- C02: `get_eval_value` returns exactly the names of the calls, in order, for every
    placement of white space inside the calls -/
theorem getEvalValue_layout (segs : List EvalCall) (tail : Str) (pw : Bool)
    (h : okEvals pw segs tail = true) :
    findEvals 0 pw (renderEvals segs tail) = segs.map (·.name) := by
  induction segs generalizing pw with
  | nil => exact quietEnd_find tail pw h
  | cons c rest ih =>
    obtain ⟨x, e, hx, hq, hl, hr⟩ := okEvals_cons h
    rw [e, quietE_find _ _ _ hq, hl, find_call hx, ih false hr]
    rfl

/-- `replace_eval` for any number of rule texts: the calls are replaced in order by the parenthesised rule texts,
    surplus rule texts are ignored, too few raise (`IndexError` of `rules.pop(0)`) -/
theorem replaceEvalAux_renderEvals (segs : List EvalCall) (tail : Str) (rules : List Str) (pw : Bool)
    (h : okEvals pw segs tail = true) :
    replaceEvalAux 0 pw (renderEvals segs tail) rules =
      if segs.length ≤ rules.length then some (spliced segs rules tail) else none := by
  induction segs generalizing pw rules with
  | nil => simpa [renderEvals, spliced] using quietEnd_replace tail pw rules h
  | cons c rest ih =>
    obtain ⟨x, e, hx, hq, hl, hr⟩ := okEvals_cons h
    rw [e, quietE_replace _ _ _ _ hq, hl, replace_call rules hx]
    cases rules with
    | nil => rfl
    | cons r rs =>
      simp only [ih rs false hr, List.length_cons, Nat.add_le_add_iff_right]
      split <;> rfl

/-- C02: `k` occurrences of `eval( name )` are replaced by the `k` parenthesised rule texts,
    in order; the text between them is untouched (for every text in which nothing else looks like a call, and
    every placement of white space inside the calls) -/
theorem replaceEval_layout (segs : List EvalCall) (tail : Str) (rules : List Str) (pw : Bool)
    (h : okEvals pw segs tail = true) (hl : rules.length = segs.length) :
    replaceEvalAux 0 pw (renderEvals segs tail) rules = some (spliced segs rules tail) := by
  rw [replaceEvalAux_renderEvals _ _ _ _ h, if_pos (Nat.le_of_eq hl.symm)]

/-- no rule text for a matcher with a call: `rules.pop(0)` raises (`IndexError`) -/
theorem replaceEval_short (c : EvalCall) (rest : List EvalCall) (tail : Str) (pw : Bool)
    (h : okEvals pw (c :: rest) tail = true) :
    replaceEvalAux 0 pw (renderEvals (c :: rest) tail) [] = none := by
  rw [replaceEvalAux_renderEvals _ _ _ _ h]
  rfl

theorem okEvals_tight {pw : Bool} {segs : List EvalCall} {tail : Str} (h : okEvals pw segs tail = true) :
    okEvals pw (segs.map EvalCall.tight) tail = true := by
  induction segs generalizing pw with
  | nil => exact h
  | cons c rest ih =>
    simp only [okEvals, Bool.and_eq_true] at h
    simp only [List.map_cons, okEvals, EvalCall.tight, h, ih h.2]
    rfl

theorem spliced_tight (segs : List EvalCall) (rules : List Str) (tail : Str) :
    spliced (segs.map EvalCall.tight) rules tail = spliced segs rules tail := by
  induction segs generalizing rules with
  | nil => cases rules <;> rfl
  | cons c rest ih =>
    cases rules with
    | nil => rfl
    | cons r rs => simp only [List.map_cons, spliced, ih, EvalCall.tight]

/-- C02 (F01c): the names found and the spliced text are the same as for the matcher
    in which every call is written `eval(name)` without white space -/
theorem eval_spacing_irrelevant (segs : List EvalCall) (tail : Str) (rules : List Str)
    (h : okEvals false segs tail = true) (hl : rules.length = segs.length) :
    getEvalValue (renderEvals segs tail) = getEvalValue (renderEvals (segs.map EvalCall.tight) tail) ∧
    replaceEval (renderEvals segs tail) rules = replaceEval (renderEvals (segs.map EvalCall.tight) tail) rules := by
  have ht := okEvals_tight h
  constructor
  · unfold getEvalValue
    rw [getEvalValue_layout _ _ _ h, getEvalValue_layout _ _ _ ht]
    simp [EvalCall.tight, Function.comp_def]
  · unfold replaceEval
    rw [replaceEval_layout _ _ _ _ h hl, replaceEval_layout _ _ _ _ ht (by simpa using hl), spliced_tight]

def exampleEvals : List EvalCall :=
  [{ pre := [], ws1 := [' '], ws2 := [' '], name := "p_sub_rule".toList, ws3 := [' '] },
   { pre := " && r_obj == p_obj || ".toList, ws1 := [], ws2 := [], name := "p_rule2".toList, ws3 := ['\t'] }]

example : okEvals false exampleEvals [] = true := by unfold exampleEvals; eval_vector
example : String.ofList (renderEvals exampleEvals []) = "eval ( p_sub_rule ) && r_obj == p_obj || eval(p_rule2\t)" := by
  apply String.toList_injective
  unfold exampleEvals; eval_vector
example : (replaceEval (renderEvals exampleEvals []) ["r_sub.age > 18".toList, "True".toList]).map String.ofList =
    some "(r_sub.age > 18) && r_obj == p_obj || (True)" := by
  refine Option.map_eq_some_iff.2 ⟨_, ?_, String.ofList_toList⟩
  unfold exampleEvals; eval_vector
example : (getEvalValue (renderEvals exampleEvals [])).map String.ofList = ["p_sub_rule", "p_rule2"] := by
  unfold exampleEvals; eval_vector
example : getEvalValue "evaluate(x) && my_eval(y) && eval(p_r)".toList = ["p_r".toList] := by eval_vector

/-- F01c: the regular expression `\beval\(([^)]*)\)` keeps the blanks in the group (so the lookup of the rule field
    fails) and does not see `eval (…)` at all -/
def evalAtUnrepaired (s : Str) : Option Str :=
  match dropPrefix? (evalWord ++ ['(']) s with
  | none => none
  | some t => if t.contains ')' then some (t.takeWhile (· != ')')) else none

theorem unrepaired_eval_keeps_blanks :
    evalAtUnrepaired "eval( p_r )".toList = some " p_r ".toList ∧
    evalAtUnrepaired "eval (p_r)".toList = none ∧
    (evalAt "eval( p_r )".toList).map (·.1) = some "p_r".toList ∧
    (evalAt "eval (p_r)".toList).map (·.1) = some "p_r".toList := by
  eval_vector

/-! ## `Config._parse_buffer`: blank and comment lines, continuation lines -/

theorem write_flat {st : PState} (h : st.buf.flatten = []) : write st = .ok st :=
  if_pos h

theorem write_ok_flat {st w : PState} (h : write st = .ok w) : w.buf.flatten = [] := by
  by_cases hj : st.buf.flatten = []
  · rw [write_flat hj] at h
    cases h
    exact hj
  · simp only [write, hj, ↓reduceIte] at h
    split at h
    · cases h
    · cases h
      rfl

/-- at end of input the pending buffer is written whatever `canWrite` says: a second `_write` finds it empty -/
theorem finish_eq_write (st : PState) : finish st = write st := by
  have hw (s : PState) : (if s.buf ≠ [] then write s else .ok s) = write s := by
    split
    · rfl
    · exact (write_flat (by simp_all)).symm
  unfold finish
  by_cases hc : st.canWrite = true
  · rw [if_pos hc]
    cases h : write st with
    | error e => rfl
    | ok w => exact (hw w).trans (write_flat (write_ok_flat h))
  · rw [if_neg hc]
    exact hw st

/-- between complete entries the head of an iteration is `_write`, then `can_write = False` -/
theorem preWrite_eq {st : PState} (h : st.canWrite = true ∨ st.buf = []) :
    preWrite st = (write st).map ({ · with canWrite := false }) := by
  unfold preWrite
  split
  · rfl
  · rw [write_flat (by simp_all)]
    cases st
    simp_all [Except.map]

/-- a line the parser skips: blank, or starting with `#` / `;` -/
def isSkip (raw : Str) : Prop := strip raw = [] ∨ ∃ h t, strip raw = h :: t ∧ (h = '#' ∨ h = ';')

theorem stepLine_skip (st : PState) (raw : Str) (hs : isSkip raw) :
    stepLine st raw = (preWrite st).map ({ · with canWrite := true }) := by
  unfold stepLine
  cases preWrite st with
  | error e => rfl
  | ok st1 =>
    rcases hs with hs | ⟨h, t, hs, hh⟩
    · simp [hs, Except.map]
    · simp [hs, hh, Except.map]

theorem stepLine_congr {a b : PState} (raw : Str) (h : preWrite a = preWrite b) :
    stepLine a raw = stepLine b raw := by
  unfold stepLine
  rw [h]

/-- C02: a blank line or a `#` / `;` comment line between complete entries (i.e. when no
    unfinished continuation is pending: `canWrite` or an empty buffer) does not change the parsed data -/
theorem skip_line_invariant (st : PState) (raw : Str) (rest : List Str) (hs : isSkip raw)
    (h : st.canWrite = true ∨ st.buf = []) :
    (parseLines st (raw :: rest)).map (·.data) = (parseLines st rest).map (·.data) := by
  rw [parseLines, stepLine_skip st raw hs, preWrite_eq h]
  cases hw : write st with
  | error e =>
    cases rest with
    | nil => rw [parseLines, finish_eq_write, hw]; rfl
    | cons r rest' => rw [parseLines, stepLine, preWrite_eq h, hw]; rfl
  | ok w =>
    -- the skipped line leaves `w` with `canWrite` set; `w` is flushed, so what comes next writes nothing more
    show (parseLines { w with canWrite := true } rest).map (·.data) = _
    have hw' : write { w with canWrite := true } = .ok { w with canWrite := true } :=
      write_flat (write_ok_flat hw :)
    cases rest with
    | nil => rw [parseLines, parseLines, finish_eq_write, finish_eq_write, hw, hw']; rfl
    | cons r rest' =>
      have hp : preWrite { w with canWrite := true } = preWrite st := by
        rw [preWrite_eq h, preWrite_eq (.inl rfl), hw, hw']; rfl
      rw [parseLines, parseLines, stepLine_congr r hp]

example : isSkip "  # a comment".toList := by
  refine Or.inr ⟨'#', " a comment".toList, by eval_vector, Or.inl rfl⟩
example : isSkip "   ".toList := Or.inl (by decide +kernel)

/-- simulation between parser states: the buffer is only ever observed through its concatenation and emptiness -/
def Sim (a b : PState) : Prop :=
  a.sect = b.sect ∧ a.canWrite = b.canWrite ∧ a.data = b.data ∧ a.buf.flatten = b.buf.flatten ∧
  (a.buf = [] ↔ b.buf = [])

def SimE : Except CfgErr PState → Except CfgErr PState → Prop
  | .ok a, .ok b => Sim a b
  | .error e, .error e' => e = e'
  | _, _ => False

theorem SimE_cases {x y : Except CfgErr PState} (h : SimE x y) :
    (∃ e, x = .error e ∧ y = .error e) ∨ ∃ a b, x = .ok a ∧ y = .ok b ∧ Sim a b :=
  match x, y, h with
  | .error e, .error _, h => .inl ⟨e, rfl, congrArg _ h.symm⟩
  | .ok a, .ok b, h => .inr ⟨a, b, rfl, rfl, h⟩

theorem SimE_ite {c d : Prop} [Decidable c] [Decidable d] {x x' y y' : Except CfgErr PState} (hc : c ↔ d)
    (h : SimE x y) (h' : SimE x' y') : SimE (if c then x else x') (if d then y else y') := by
  by_cases hd : d
  · rwa [if_pos (hc.mpr hd), if_pos hd]
  · rwa [if_neg (mt hc.mp hd), if_neg hd]

theorem SimE_map {x y : Except CfgErr PState} {f : PState → PState} (h : SimE x y)
    (hf : ∀ a b, Sim a b → Sim (f a) (f b)) : SimE (x.map f) (y.map f) :=
  match x, y, h with
  | .error _, .error _, h => h
  | .ok a, .ok b, h => hf a b h

theorem SimE_data {x y : Except CfgErr PState} (h : SimE x y) : x.map (·.data) = y.map (·.data) :=
  match x, y, h with
  | .error _, .error _, h => congrArg Except.error h
  | .ok _, .ok _, h => congrArg Except.ok h.2.2.1

theorem Sim_cw {a b : PState} (c : Bool) (h : Sim a b) :
    Sim { a with canWrite := c } { b with canWrite := c } :=
  ⟨h.1, rfl, h.2.2⟩

theorem Sim_push {a b : PState} (l : Str) (h : Sim a b) :
    Sim { a with buf := a.buf ++ [l] } { b with buf := b.buf ++ [l] } :=
  ⟨h.1, h.2.1, h.2.2.1, by simp [h.2.2.2.1], by simp⟩

theorem write_sim {a b : PState} (h : Sim a b) : SimE (write a) (write b) := by
  unfold write
  rw [← h.2.2.2.1]
  refine SimE_ite .rfl h ?_
  cases splitFirst '=' a.buf.flatten with
  | none => exact rfl
  | some ov => exact ⟨h.1, h.2.1, by rw [h.1, h.2.2.1], rfl, .rfl⟩

theorem preWrite_sim {a b : PState} (h : Sim a b) : SimE (preWrite a) (preWrite b) :=
  SimE_ite (by rw [h.2.1]) (SimE_map (write_sim h) fun _ _ => Sim_cw false) h

theorem stepLine_sim {a b : PState} (raw : Str) (h : Sim a b) : SimE (stepLine a raw) (stepLine b raw) := by
  unfold stepLine
  obtain ⟨e, ha, hb⟩ | ⟨a', b', ha, hb, h'⟩ := SimE_cases (preWrite_sim h) <;> rw [ha, hb]
  · exact rfl
  simp only
  cases strip raw with
  | nil => exact Sim_cw true h'
  | cons c t =>
    -- comment line; section header (below); continuation line; last line of an entry
    refine SimE_ite .rfl (Sim_cw true h') (SimE_ite .rfl ?_
      (SimE_ite .rfl (Sim_push _ h') (Sim_cw true (Sim_push _ h'))))
    obtain ⟨e, ha, hb⟩ | ⟨a2, b2, ha, hb, h2⟩ := SimE_cases (SimE_ite (x' := .ok a') (y' := .ok b')
      (not_congr h'.2.2.2.2) (SimE_map (write_sim h') fun _ _ => Sim_cw false) h') <;> rw [ha, hb]
    · exact rfl
    · exact ⟨rfl, h2.2⟩

theorem parse_sim {a b : PState} (ls : List Str) (h : Sim a b) : SimE (parseLines a ls) (parseLines b ls) := by
  induction ls generalizing a b with
  | nil =>
    rw [parseLines, parseLines, finish_eq_write, finish_eq_write]
    exact write_sim h
  | cons raw rest ih =>
    unfold parseLines
    obtain ⟨e, ha, hb⟩ | ⟨a', b', ha, hb, h'⟩ := SimE_cases (stepLine_sim raw h) <;> rw [ha, hb]
    · exact rfl
    · exact ih h'

/-- a stripped line that is neither skipped nor a section header -/
def plainLine (l : Str) : Prop :=
  ∃ h t, l = h :: t ∧ h ≠ '#' ∧ h ≠ ';' ∧ ¬(h = '[' ∧ l.getLast? = some ']')

theorem plainLine_cons (h : Char) (t : Str) :
    plainLine (h :: t) ↔ h ≠ '#' ∧ h ≠ ';' ∧ ¬(h = '[' ∧ (h :: t).getLast? = some ']') :=
  ⟨fun ⟨_, _, e, hh⟩ => by cases e; exact hh, fun hh => ⟨h, t, rfl, hh⟩⟩

instance : (l : Str) → Decidable (plainLine l)
  | [] => isFalse fun ⟨_, _, e, _⟩ => nomatch e
  | h :: t => decidable_of_iff _ (plainLine_cons h t).symm

theorem step_plain (st : PState) (raw l : Str) (hcw : st.canWrite = false) (hs : strip raw = l)
    (hp : plainLine l) :
    stepLine st raw =
      if l.getLast? = some '\\' then .ok { st with buf := st.buf ++ [strip l.dropLast ++ [' ']] }
      else .ok { st with buf := st.buf ++ [l], canWrite := true } := by
  obtain ⟨h, t, e, h1, h2, h3⟩ := hp
  subst e
  unfold stepLine
  simp only [preWrite, hcw, Bool.false_eq_true, ↓reduceIte, hs]
  rw [if_neg (by simp [h1, h2]), if_neg h3]

theorem step_cont (st : PState) (raw x : Str) (hcw : st.canWrite = false) (hs : strip raw = x ++ ['\\'])
    (hp : plainLine (x ++ ['\\'])) :
    stepLine st raw = .ok { st with buf := st.buf ++ [strip x ++ [' ']] } := by
  rw [step_plain st raw _ hcw hs hp]
  simp

theorem step_last (st : PState) (raw y : Str) (hcw : st.canWrite = false) (hs : strip raw = y)
    (hp : plainLine y) (hl : y.getLast? ≠ some '\\') :
    stepLine st raw = .ok { st with buf := st.buf ++ [y], canWrite := true } := by
  rw [step_plain st raw _ hcw hs hp, if_neg hl]

/-- what the continuation lines `(raw, x)` (stripped: `x ++ "\\"`) put into the buffer -/
def contribs (conts : List (Str × Str)) : List Str := conts.map fun p => strip p.2 ++ [' ']

theorem run_conts (st : PState) (hcw : st.canWrite = false) (conts : List (Str × Str)) (tail : List Str)
    (hc : ∀ p ∈ conts, strip p.1 = p.2 ++ ['\\'] ∧ plainLine (p.2 ++ ['\\'])) :
    parseLines st (conts.map (·.1) ++ tail) = parseLines { st with buf := st.buf ++ contribs conts } tail := by
  induction conts generalizing st with
  | nil => simp [contribs]
  | cons p ps ih =>
    obtain ⟨⟨h1, h2⟩, hc'⟩ := List.forall_mem_cons.mp hc
    rw [List.map_cons, List.cons_append, parseLines, step_cont st p.1 p.2 hcw h1 h2]
    simp only
    rw [ih { st with buf := st.buf ++ [strip p.2 ++ [' ']] } hcw hc']
    simp [contribs]

/-- C02: an entry written over any number of continuation lines (each ending in a
    backslash, with arbitrary blanks before and after the text) is parsed exactly like the same entry on ONE
    line in which every break is a single blank; `rest` is whatever follows (more entries, sections, EOF).
    `hcw`: the state directly after a section header or at the start of the text. After a complete entry or a skipped
    line `canWrite` is set and the first line's `preWrite` flushes before anything else happens: `stepLine_congr`
    reduces that case to this one. -/
theorem continuation_invariant (st : PState) (hcw : st.canWrite = false) (conts : List (Str × Str))
    (rawLast y rawJoined : Str) (rest : List Str)
    (hc : ∀ p ∈ conts, strip p.1 = p.2 ++ ['\\'] ∧ plainLine (p.2 ++ ['\\']))
    (hl : strip rawLast = y) (hpl : plainLine y) (hll : y.getLast? ≠ some '\\')
    (hj : strip rawJoined = (contribs conts).flatten ++ y) (hpj : plainLine ((contribs conts).flatten ++ y))
    (hlj : ((contribs conts).flatten ++ y).getLast? ≠ some '\\') :
    (parseLines st (conts.map (·.1) ++ rawLast :: rest)).map (·.data) =
      (parseLines st (rawJoined :: rest)).map (·.data) := by
  rw [run_conts st hcw conts _ hc, parseLines, parseLines,
    step_last { st with buf := st.buf ++ contribs conts } rawLast y hcw hl hpl hll,
    step_last st rawJoined _ hcw hj hpj hlj]
  exact SimE_data (parse_sim rest ⟨rfl, rfl, rfl, by simp, by simp⟩)

example :
    (∀ p ∈ [("m = r.sub == p.sub  \\  ".toList, "m = r.sub == p.sub  ".toList)],
        strip p.1 = p.2 ++ ['\\'] ∧ plainLine (p.2 ++ ['\\'])) ∧
    strip "   && r.obj == p.obj ".toList = "&& r.obj == p.obj".toList ∧
    plainLine "&& r.obj == p.obj".toList ∧
    strip "m = r.sub == p.sub && r.obj == p.obj".toList =
      (contribs [("m = r.sub == p.sub  \\  ".toList, "m = r.sub == p.sub  ".toList)]).flatten ++
        "&& r.obj == p.obj".toList := by
  eval_vector

end Casbin.C02
