import CasbinV.Proofs.EnfStep
/-!
# C20 (order) — notifications are issued after the adapter has been told

`St.ev` records adapter calls and notifications in the order they leave the enforcer.  Every management call (and
`save_policy`, `load_policy`, the filtered update) extends it by adapter calls followed by notifications - never a
notification before the adapter call it reports.  (The in-memory change precedes both by construction: `persist` is
applied to the state that already holds the new policy and does not touch it, `persist_eq`.)
-/
namespace Casbin.Enf.C20
open Casbin.Policy

def Ordered (base ev : List Ev) : Prop :=
  ∃ (as : List ACall) (ws : List WCall), ev = base ++ as.map Ev.adapter ++ ws.map Ev.watcher

theorem Ordered.refl (l : List Ev) : Ordered l l := ⟨[], [], by simp⟩

theorem Ordered.of_eq {base ev : List Ev} (h : ev = base) : Ordered base ev := h ▸ Ordered.refl _

theorem persist_ev (cfg : Cfg) (s : St) (c : ACall) (w : Option WCall) :
    (persist cfg s c w).ev =
      if cfg.hasAdapter && s.autoSave then
        if cfg.hasWatcher && s.autoNotify then
          s.ev ++ [Ev.adapter c] ++ [Ev.watcher (match w with | some x => x | none => .update)]
        else s.ev ++ [Ev.adapter c]
      else s.ev := by
  rw [persist_eq]; rfl

theorem persist_ordered (cfg : Cfg) (s0 s : St) (c : ACall) (w : Option WCall) (h : s.ev = s0.ev) :
    Ordered s0.ev (persist cfg s c w).ev := by
  rw [persist_ev, h]
  split
  · split
    · exact ⟨[c], [match w with | some x => x | none => .update], by simp⟩
    · exact ⟨[c], [], by simp⟩
  · exact Ordered.refl _

/-- C20, the order: every call tells the adapter before it notifies the watcher -/
theorem step_ordered (cfg : Cfg) (s : St) (op : Op) : Ordered s.ev (step cfg s op).1.ev := by
  by_cases hop : isChange op = true
  · refine step_of_commits (P := fun s' => Ordered s.ev s'.ev) cfg s op hop (Ordered.refl _) fun ch _ => ?_
    -- the `ev` field of `commit` is the right side of `persist_ev`
    have := persist_ordered cfg s { s with pol := s.pol.set ch.sec ch.l } ch.call ch.note rfl
    rwa [persist_ev] at this
  · cases op with
    | buildRoleLinks => simp only [step]; split <;> exact Ordered.refl _
    | savePolicy =>
      simp only [step]
      split
      · exact ⟨[.savePolicy], [if cfg.watcherEx then .forSavePolicy else .update], by simp⟩
      · exact ⟨[.savePolicy], [], by simp⟩
    | loadPolicy k =>
      simp only [step]
      split
      · exact ⟨[.loadPolicy], [], by simp⟩
      · rw [loadCore_fst]; exact ⟨[.loadPolicy], [], by simp⟩
    | clearPolicy | enableAutoSave b | enableAutoBuild b | enableAutoNotify b => exact Ordered.refl _
    | _ => exact absurd rfl hop

theorem updateFiltered_ordered (cfg : Cfg) (s : St) (news : List Rule) (idx : Nat) (vals : List String) :
    Ordered s.ev (updateFilteredStep cfg s news idx vals).1.ev := by
  rcases updateFilteredStep_guards cfg s news idx vals with ⟨r, h, _⟩ | ⟨old, hg, hr⟩
  · rw [h]; exact Ordered.refl _
  · rw [updateFilteredStep_eq hg hr]
    exact ⟨_, _, rfl⟩

/-- over a whole history the earlier events stay a prefix and what is appended splits into blocks "adapter calls, then
    notifications".  The statement does not tie a block to a call (any sequence splits so): that a call's notification
    follows its own adapter call is `step_ordered`, call by call. -/
theorem run_blocks (cfg : Cfg) (ops : List Op) (s : St) :
    ∃ blocks : List (List ACall × List WCall),
      (run cfg s ops).ev = s.ev ++ blocks.flatMap fun b => b.1.map Ev.adapter ++ b.2.map Ev.watcher := by
  induction ops generalizing s with
  | nil => exact ⟨[], by simp [run]⟩
  | cons op ops ih =>
    obtain ⟨as, ws, h1⟩ := step_ordered cfg s op
    obtain ⟨bs, h2⟩ := ih (step cfg s op).1
    refine ⟨(as, ws) :: bs, ?_⟩
    simp only [run, List.foldl_cons] at h2 ⊢
    rw [h2, h1]
    simp [List.append_assoc]

example : (step { gCount := 2, g2Count := 0, hasAdapter := true, hasWatcher := true, watcherEx := true, watcherUpd := false } {}
    (.add .p ["alice", "data1", "read"])).1.ev =
    [.adapter (.addPolicy .p ["alice", "data1", "read"]), .watcher (.forAddPolicy .p ["alice", "data1", "read"])] := by decide

end Casbin.Enf.C20
