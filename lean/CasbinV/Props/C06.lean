import CasbinV.Model.Policy
import CasbinV.Proofs.StableInsert
import CasbinV.Proofs.ListFacts
/-!
# C06 — policy management behaves as operations on a duplicate-free ordered rule set

Subject: `Casbin.Policy.*` (Model/Policy.lean = `casbin/model/policy.py` after the `fix:` commits, tied by the
correspondence run of `tools/harness/props/c06.py` at unit and at `Enforcer` API level).

Every operation is first shown equal to its `Spec` counterpart (a `filter`, a `map` or an append on the list); what
it does to membership, order and duplicate-freeness is then read off the list library.
-/
namespace Casbin.Policy.C06

theorem has_iff (l : List Rule) (r : Rule) : has l r = true ↔ r ∈ l := by
  simp [has]

theorem has_eq (l : List Rule) : has l = fun r => decide (r ∈ l) := by
  funext r; simp [has]

theorem add_refines (l : List Rule) (r : Rule) : add none l r = Spec.add l r := by
  unfold add Spec.add
  by_cases h : r ∈ l <;> simp [has, h]

/-- the backward bubble loop is a stable insertion into the reversed list: the new rule passes the rules of greater
    priority (and stops at a rule without a numeric one). C07's order theorems start here; it stands in this file
    because `add_of_not_mem` needs the permutation whatever the priority column. -/
theorem bubbleRev_eq_insertAfter (pi : Nat) (p : Int) (r : Rule) (rev : List Rule) :
    bubbleRev pi p r rev = insertAfter (fun x => (prioOf pi x).any (· > p)) r rev := by
  induction rev with
  | nil => rfl
  | cons x xs ih => unfold bubbleRev insertAfter; cases prioOf pi x <;> simp [ih]

theorem insertByPriority_perm (pi : Nat) (l : List Rule) (r : Rule) :
    (insertByPriority pi l r).Perm (r :: l) := by
  unfold insertByPriority
  split
  · exact List.perm_append_singleton r l
  · rw [bubbleRev_eq_insertAfter]
    exact (List.reverse_perm _).trans ((insertAfter_perm _ _ _).trans (List.Perm.cons r (List.reverse_perm l)))

theorem add_of_mem (pi : Option Nat) {l : List Rule} {r : Rule} (h : r ∈ l) : add pi l r = (l, false) := by
  simp [add, has, h]

theorem add_of_not_mem (pi : Option Nat) {l : List Rule} {r : Rule} (h : r ∉ l) :
    (add pi l r).2 = true ∧ (add pi l r).1.Perm (r :: l) := by
  cases pi with
  | none => simp [add, has, h]
  | some i => simpa [add, has, h] using insertByPriority_perm i l r

theorem add_ok {l l' : List Rule} {r : Rule} (h : add none l r = (l', true)) : r ∉ l ∧ l' = l ++ [r] := by
  rw [add_refines, Spec.add] at h
  split at h <;> cases h
  exact ⟨‹_›, rfl⟩

theorem add_result (pi : Option Nat) (l : List Rule) (r : Rule) : (add pi l r).2 = !decide (r ∈ l) := by
  by_cases h : r ∈ l
  · simp [add_of_mem pi h, h]
  · simp [(add_of_not_mem pi h).1, h]

theorem add_rejected (pi : Option Nat) (l : List Rule) (r : Rule) (h : (add pi l r).2 = false) :
    (add pi l r).1 = l := by
  by_cases hr : r ∈ l
  · rw [add_of_mem pi hr]
  · simp [(add_of_not_mem pi hr).1] at h

theorem add_mem (pi : Option Nat) (l : List Rule) (r x : Rule) :
    x ∈ (add pi l r).1 ↔ x ∈ l ∨ x = r := by
  by_cases h : r ∈ l
  · rw [add_of_mem pi h]
    constructor
    · exact Or.inl
    · rintro (hx | rfl)
      · exact hx
      · exact h
  · rw [(add_of_not_mem pi h).2.mem_iff]; simp [or_comm]

theorem add_nodup (pi : Option Nat) (l : List Rule) (r : Rule) (hd : l.Nodup) : (add pi l r).1.Nodup := by
  by_cases h : r ∈ l
  · rw [add_of_mem pi h]; exact hd
  · exact (add_of_not_mem pi h).2.nodup_iff.mpr (List.nodup_cons.mpr ⟨h, hd⟩)

/-- without a priority column insertion order is kept: the old list is a prefix of the new one -/
theorem add_prefix (l : List Rule) (r : Rule) : l <+: (add none l r).1 := by
  rw [add_refines]; unfold Spec.add; split <;> simp

theorem addMany_eq (pi : Option Nat) (l rs : List Rule) :
    addMany pi l rs = if rs.any (· ∈ l) then (l, false) else (rs.foldl (fun acc r => (add pi acc r).1) l, true) := by
  rw [addMany, has_eq]

theorem addMany_ok {pi : Option Nat} {l l' rs : List Rule} (h : addMany pi l rs = (l', true)) :
    l' = rs.foldl (fun acc r => (add pi acc r).1) l := by
  rw [addMany_eq] at h
  split at h <;> cases h
  rfl

theorem foldl_add_mem (pi : Option Nat) (rs : List Rule) (l : List Rule) (x : Rule) :
    x ∈ rs.foldl (fun acc r => (add pi acc r).1) l ↔ x ∈ l ∨ x ∈ rs := by
  induction rs generalizing l with
  | nil => simp
  | cons r rs ih => simp only [List.foldl_cons, ih, add_mem, List.mem_cons]; grind

theorem foldl_add_eq_append (rs l : List Rule) :
    rs.foldl (fun acc r => (add none acc r).1) l = l ++ (rs.filter (· ∉ l)).eraseDups := by
  induction rs generalizing l with
  | nil => simp
  | cons r rs ih =>
    rw [List.foldl_cons, ih, add_refines, Spec.add]
    by_cases h : r ∈ l
    · simp [h]
    · simp only [h, ↓reduceIte, List.append_assoc, List.singleton_append, List.filter_cons, decide_not, decide_false,
        Bool.not_false, List.eraseDups_cons, List.filter_filter, List.mem_append, List.mem_singleton]
      congr 3
      exact List.filter_congr fun a _ => by by_cases ha : a = r <;> simp [ha, h]

theorem addMany_refines (l rs : List Rule) : addMany none l rs = Spec.addMany l rs := by
  rw [addMany_eq, Spec.addMany, foldl_add_eq_append]
  split
  · rfl
  · rw [List.filter_eq_self.mpr (by simp_all)]

theorem addMany_result (pi : Option Nat) (l rs : List Rule) :
    (addMany pi l rs).2 = !rs.any (· ∈ l) := by
  rw [addMany_eq]; split <;> simp_all

theorem addMany_all_or_nothing (pi : Option Nat) (l rs : List Rule) (h : (addMany pi l rs).2 = false) :
    (addMany pi l rs).1 = l := by
  rw [addMany_eq] at *; split <;> simp_all

theorem addMany_nodup (pi : Option Nat) (l rs : List Rule) (hd : l.Nodup) : (addMany pi l rs).1.Nodup := by
  rw [addMany_eq]; split
  · exact hd
  · exact List.foldlRecOn (motive := List.Nodup) rs _ hd fun acc h r _ => add_nodup pi acc r h

/-- on success exactly the batch's rules have been added, each once (also when the batch repeats a rule) -/
theorem addMany_success (pi : Option Nat) (l rs : List Rule) (hd : l.Nodup) (h : (addMany pi l rs).2 = true) :
    (∀ x, x ∈ (addMany pi l rs).1 ↔ x ∈ l ∨ x ∈ rs) ∧ (addMany pi l rs).1.Nodup := by
  refine ⟨fun x => ?_, addMany_nodup pi l rs hd⟩
  rw [addMany_eq] at h ⊢
  split <;> simp_all [foldl_add_mem]

theorem addMany_prefix (l rs : List Rule) : l <+: (addMany none l rs).1 := by
  rw [addMany_refines, Spec.addMany]; split <;> simp

theorem remove_refines (l : List Rule) (r : Rule) (hd : l.Nodup) : remove l r = Spec.remove l r := by
  unfold remove Spec.remove
  by_cases h : r ∈ l <;> simp [has, h, hd.erase_eq_filter]

/-- a removal that reports success has erased a present rule (no duplicate-freeness needed) -/
theorem remove_ok {l l' : List Rule} {r : Rule} (h : remove l r = (l', true)) : r ∈ l ∧ l' = l.erase r := by
  unfold remove at h
  split at h
  · cases h
  · exact ⟨by simp_all [has], (Prod.mk.inj h).1.symm⟩

theorem remove_result (l : List Rule) (r : Rule) (hd : l.Nodup) : (remove l r).2 = decide (r ∈ l) := by
  rw [remove_refines l r hd]; unfold Spec.remove; split <;> simp_all

theorem remove_mem (l : List Rule) (r x : Rule) (hd : l.Nodup) :
    x ∈ (remove l r).1 ↔ x ∈ l ∧ x ≠ r := by
  rw [remove_refines l r hd]; unfold Spec.remove
  split
  · simp
  · rename_i h; exact ⟨fun hx => ⟨hx, fun e => h (e ▸ hx)⟩, And.left⟩

theorem remove_sublist (l : List Rule) (r : Rule) : ((remove l r).1).Sublist l := by
  unfold remove; split
  · exact List.Sublist.refl _
  · exact List.erase_sublist

theorem remove_nodup (l : List Rule) (r : Rule) (hd : l.Nodup) : (remove l r).1.Nodup :=
  (remove_sublist l r).nodup hd

theorem removeMany_eq (l rs : List Rule) :
    removeMany l rs = if rs.all (· ∈ l) then
      (rs.foldl (fun acc r => if acc.contains r then acc.erase r else acc) l, true) else (l, false) := by
  rw [removeMany, has_eq]

theorem removeMany_ok {l l' rs : List Rule} (h : removeMany l rs = (l', true)) :
    (∀ r ∈ rs, r ∈ l) ∧ l' = rs.foldl (fun acc r => if acc.contains r then acc.erase r else acc) l := by
  rw [removeMany_eq] at h
  split at h <;> cases h
  exact ⟨by simp_all, rfl⟩

theorem removeMany_refines (l rs : List Rule) (hd : l.Nodup) : removeMany l rs = Spec.removeMany l rs := by
  rw [removeMany_eq, foldl_erase_eq_filter rs l hd]; rfl

theorem removeMany_result (l rs : List Rule) : (removeMany l rs).2 = rs.all (· ∈ l) := by
  rw [removeMany_eq]; split <;> simp_all

theorem removeMany_all_or_nothing (l rs : List Rule) (h : (removeMany l rs).2 = false) :
    (removeMany l rs).1 = l := by
  rw [removeMany_eq] at *; split <;> simp_all

theorem removeMany_sublist (l rs : List Rule) : ((removeMany l rs).1).Sublist l := by
  rw [removeMany_eq]; split
  · exact foldl_erase_sublist rs l
  · exact List.Sublist.refl _

theorem removeMany_success (l rs : List Rule) (hd : l.Nodup) (h : (removeMany l rs).2 = true) :
    (∀ x, x ∈ (removeMany l rs).1 ↔ x ∈ l ∧ x ∉ rs) ∧ ((removeMany l rs).1).Sublist l := by
  refine ⟨fun x => ?_, removeMany_sublist l rs⟩
  rw [removeMany_refines l rs hd, Spec.removeMany] at h ⊢
  split <;> simp_all

theorem removeMany_nodup (l rs : List Rule) (hd : l.Nodup) : (removeMany l rs).1.Nodup :=
  (removeMany_sublist l rs).nodup hd

/-- every rule is long enough for the filter (otherwise Python raises `IndexError` when it reaches a
    non-empty value; that branch is `matchesFrom_short`) -/
def InRange (idx : Nat) (vals : List String) (l : List Rule) : Prop := ∀ r ∈ l, idx + vals.length ≤ r.length

theorem matchesFilter_cons (idx : Nat) (v : String) (vs : List String) (r : Rule) :
    Spec.matchesFilter idx (v :: vs) r =
      ((v == "" || r[idx]? == some v) && Spec.matchesFilter (idx + 1) vs r) := by
  simp only [Spec.matchesFilter, List.zipIdx_cons, List.all_cons, Nat.add_zero]
  congr 1
  rw [show (1 : Nat) = 0 + 1 from rfl, List.zipIdx_succ]
  simp [List.all_map, Function.comp_def, Nat.add_assoc, Nat.add_comm 1]

theorem matchesFrom_cases (r : Rule) (idx : Nat) (vals : List String) :
    matchesFrom r idx vals = .ok (Spec.matchesFilter idx vals r) ∨
      (matchesFrom r idx vals = .error .indexError ∧ r.length < idx + vals.length) := by
  induction vals generalizing idx with
  | nil => exact .inl (by simp [matchesFrom, Spec.matchesFilter])
  | cons v vs ih =>
    rw [matchesFilter_cons, matchesFrom, List.length_cons]
    by_cases hv : v = ""
    · simpa [hv, Nat.add_assoc, Nat.add_comm 1] using ih (idx + 1)
    · cases hx : r[idx]? with
      | none => exact .inr ⟨by simp [hv], by have := List.getElem?_eq_none_iff.mp hx; omega⟩
      | some x =>
        by_cases hxv : x = v
        · simpa [hv, hxv, Nat.add_assoc, Nat.add_comm 1] using ih (idx + 1)
        · exact .inl (by simp [hv, hxv])

theorem matchesFrom_ok (r : Rule) (idx : Nat) (vals : List String) (b : Bool)
    (h : matchesFrom r idx vals = .ok b) : b = Spec.matchesFilter idx vals r := by
  rcases matchesFrom_cases r idx vals with h' | ⟨h', -⟩ <;> rw [h'] at h <;> cases h
  rfl

theorem matchesFrom_spec (r : Rule) (idx : Nat) (vals : List String) (h : idx + vals.length ≤ r.length) :
    matchesFrom r idx vals = .ok (Spec.matchesFilter idx vals r) :=
  (matchesFrom_cases r idx vals).resolve_right fun h' => by omega

theorem matchesFrom_short (r : Rule) (idx : Nat) (v : String) (vs : List String) (hv : v ≠ "")
    (h : r.length ≤ idx) : matchesFrom r idx (v :: vs) = .error .indexError := by
  unfold matchesFrom
  simp [hv, List.getElem?_eq_none h]

theorem partitionFiltered_ok (idx : Nat) (vals : List String) (l yes no : List Rule)
    (h : partitionFiltered idx vals l = .ok (yes, no)) :
    yes = l.filter (Spec.matchesFilter idx vals) ∧ no = l.filter (fun r => !Spec.matchesFilter idx vals r) := by
  induction l generalizing yes no with
  | nil => cases h; simp
  | cons r rs ih =>
    unfold partitionFiltered at h
    split at h
    · cases h
    · rename_i b hb
      have hbs := matchesFrom_ok r idx vals b hb
      split at h
      · cases h
      · rename_i y n hp
        obtain ⟨h1, h2⟩ := ih y n hp
        split at h <;> cases h <;> simp_all [List.filter]

theorem partitionFiltered_nil (idx : Nat) (vals : List String) (l no : List Rule)
    (h : partitionFiltered idx vals l = .ok ([], no)) : no = l := by
  obtain ⟨h1, rfl⟩ := partitionFiltered_ok idx vals l [] no h
  rw [List.filter_eq_self]
  intro x hx
  simpa using List.filter_eq_nil_iff.mp h1.symm x hx

/-- the filtered reads and removals map the partition: whenever one answers, it answers on the specification's partition
    (no range condition) -/
theorem map_partitionFiltered_ok {β : Type} {g : List Rule × List Rule → β} {idx : Nat} {vals : List String}
    {l : List Rule} {b : β} (h : (partitionFiltered idx vals l).map g = .ok b) :
    b = g (l.filter (Spec.matchesFilter idx vals), l.filter fun r => !Spec.matchesFilter idx vals r) := by
  cases hp : partitionFiltered idx vals l with
  | error e => simp [hp, Except.map] at h
  | ok p =>
    obtain ⟨h1, h2⟩ := partitionFiltered_ok idx vals l p.1 p.2 hp
    rw [← h1, ← h2]
    simpa [hp, Except.map] using h.symm

theorem removeFilteredReturnsEffects_ok (l l' eff : List Rule) (idx : Nat) (vals : List String)
    (h : removeFilteredReturnsEffects l idx vals = .ok (l', eff)) :
    l' = (Spec.removeFiltered l idx vals).1 ∧ eff = Spec.getFiltered l idx vals :=
  Prod.mk.inj (map_partitionFiltered_ok h)

theorem getFiltered_ok (l old : List Rule) (idx : Nat) (vals : List String)
    (h : getFiltered l idx vals = .ok old) : old = Spec.getFiltered l idx vals :=
  map_partitionFiltered_ok h

theorem partitionFiltered_spec (idx : Nat) (vals : List String) (l : List Rule) (h : InRange idx vals l) :
    partitionFiltered idx vals l =
      .ok (l.filter (Spec.matchesFilter idx vals), l.filter (fun r => !Spec.matchesFilter idx vals r)) := by
  induction l with
  | nil => simp [partitionFiltered]
  | cons r rs ih =>
    unfold partitionFiltered
    rw [matchesFrom_spec r idx vals (h r (by simp)), ih (fun x hx => h x (by simp [hx]))]
    cases hm : Spec.matchesFilter idx vals r <;> simp [hm]

/-- filtered reads select exactly the rules whose fields equal every non-empty filter value, in order -/
theorem getFiltered_exact (l : List Rule) (idx : Nat) (vals : List String) (h : InRange idx vals l) :
    getFiltered l idx vals = .ok (Spec.getFiltered l idx vals) := by
  unfold getFiltered Spec.getFiltered
  rw [partitionFiltered_spec idx vals l h]; rfl

theorem removeFiltered_exact (l : List Rule) (idx : Nat) (vals : List String) (h : InRange idx vals l) :
    removeFiltered l idx vals = .ok (Spec.removeFiltered l idx vals) := by
  unfold removeFiltered Spec.removeFiltered
  rw [partitionFiltered_spec idx vals l h]
  simp [Except.map, isEmpty_filter]

theorem removeFilteredReturnsEffects_exact (l : List Rule) (idx : Nat) (vals : List String)
    (h : InRange idx vals l) :
    removeFilteredReturnsEffects l idx vals =
      .ok ((Spec.removeFiltered l idx vals).1, Spec.getFiltered l idx vals) := by
  unfold removeFilteredReturnsEffects
  rw [partitionFiltered_spec idx vals l h]; rfl

/-- a filter without values selects every rule, whatever the field index - for the read, the removal of permission rules
    and the removal of role assignments alike -/
theorem emptyFilter_selects_all (l : List Rule) (idx : Nat) :
    getFiltered l idx [] = .ok l ∧ removeFiltered l idx [] = .ok ([], !l.isEmpty) ∧
      removeFilteredReturnsEffects l idx [] = .ok ([], l) := by
  have h : partitionFiltered idx [] l = .ok (l, []) := by
    induction l with
    | nil => rfl
    | cons r rs ih => simp [partitionFiltered, matchesFrom, ih]
  simp [getFiltered, removeFiltered, removeFilteredReturnsEffects, h, Except.map]

-- F38 (DESIGN 11.3): the removal of role assignments given no values
example : removeFilteredReturnsEffects [["alice", "admin"], ["bob", "admin"]] 0 [] = .ok ([], [["alice", "admin"], ["bob", "admin"]]) := by decide

/-- of the specification's list, which is the model's whenever `removeFiltered` answers (`map_partitionFiltered_ok`) -/
theorem removeFiltered_nodup (l : List Rule) (idx : Nat) (vals : List String) (hd : l.Nodup) :
    (Spec.removeFiltered l idx vals).1.Nodup := hd.filter _

theorem update_refines (l : List Rule) (old new : Rule) (hd : l.Nodup) :
    update none l old new = .ok (Spec.update l old new) := by
  -- on a duplicate-free list, writing at the position of `old` rewrites its one occurrence
  have hs : l.set (l.idxOf old) new = l.map fun x => if x = old then new else x := by
    simpa using set_idxOf_map l id old new hd
  unfold update Spec.update
  by_cases ho : old ∈ l
  · by_cases hn : new = old
    · subst hn; simp [ho, hs]
    · by_cases hp : new ∈ l
      · simp [ho, hn, hp]
      · simp [ho, hn, hp, hs]
  · simp [ho]

theorem spec_update_nodup (l : List Rule) (old new : Rule) (hd : l.Nodup) : (Spec.update l old new).1.Nodup := by
  unfold Spec.update
  split
  · rename_i h
    -- injective on l: the only element sent to `new` is `old`, and `new ∉ l` (or `new = old`)
    rw [List.Nodup, List.pairwise_map]
    exact hd.imp_of_mem fun {x y} hx hy hxy => by grind
  · exact hd

/-- of the specification's list, which is the model's on a duplicate-free policy (`update_refines`) -/
theorem update_mem (l : List Rule) (old new x : Rule) (h : (Spec.update l old new).2 = true) :
    x ∈ (Spec.update l old new).1 ↔ (x ∈ l ∧ x ≠ old) ∨ x = new := by
  unfold Spec.update at *
  split at h
  · rename_i hc
    simp only [hc, and_self, ↓reduceIte, List.mem_map]
    constructor
    · rintro ⟨y, hy, rfl⟩
      by_cases hyo : y = old <;> simp [hyo, hy]
    · rintro (⟨hx, hne⟩ | rfl)
      · exact ⟨x, hx, by simp [hne]⟩
      · exact ⟨old, hc.1, by simp⟩
  · cases h

/-- with a priority column `update_policy`, when it does not raise, either refuses or finds the two priority fields
    equal and then answers as it does without the column -/
theorem update_priority_guard (pt : Nat) (l : List Rule) (old new : Rule) (res : List Rule × Bool)
    (h : update (some pt) l old new = .ok res) :
    res = (l, false) ∨ (old[pt]? = new[pt]? ∧ update none l old new = .ok res) := by
  unfold update at *
  split at h
  · exact .inl (Except.ok.inj h).symm
  split at h
  · exact .inl (Except.ok.inj h).symm
  rw [if_neg ‹_›, if_neg ‹_›]
  dsimp only at h ⊢
  split at h
  · rename_i a b ha hb
    split at h
    · rename_i hab; exact .inr ⟨by rw [ha, hb, eq_of_beq hab], h⟩
    · cases h
  · cases h

/-- an update that reports success has replaced a present rule where it stood (no duplicate-freeness needed) -/
theorem update_ok {l l' : List Rule} {old new : Rule} (h : update none l old new = .ok (l', true)) :
    old ∈ l ∧ l' = l.set (l.idxOf old) new := by
  unfold update at h
  by_cases ho : old ∈ l
  · rw [if_neg (by simp [ho])] at h
    by_cases hc : (new != old && l.contains new) = true
    · rw [if_pos hc] at h; cases h
    · rw [if_neg hc] at h; cases h
      exact ⟨ho, rfl⟩
  · rw [if_pos (by simp [ho])] at h; cases h

/-! ## every history keeps the set duplicate-free -/

/-- The calls of the history. Not among them: `update_policies` (`updateMany_nodup`, Props/C06u) and
    `update_filtered_policies` (`updateFiltered_nodup`, Props/C06f), which keep the invariant by theorems of their own;
    `update_policy` in a model with a priority column (as without one, or no change: `update_priority_guard`);
    `remove_filtered_policy_returns_effects` and `remove_policies_with_effected`, which by their definitions leave the
    list that `removeFiltered` and a sequence of `remove`s leave. -/
inductive Op
  | add (pi : Option Nat) (r : Rule)
  | addMany (pi : Option Nat) (rs : List Rule)
  | remove (r : Rule)
  | removeMany (rs : List Rule)
  | removeFiltered (idx : Nat) (vals : List String)
  | update (old new : Rule)

/-- one management call on the in-memory policy (an exception leaves it unchanged) -/
def step (l : List Rule) : Op → List Rule
  | .add pi r => (add pi l r).1
  | .addMany pi rs => (addMany pi l rs).1
  | .remove r => (remove l r).1
  | .removeMany rs => (removeMany l rs).1
  | .removeFiltered idx vals => match removeFiltered l idx vals with | .ok (l', _) => l' | .error _ => l
  | .update old new => match update none l old new with | .ok (l', _) => l' | .error _ => l

theorem step_nodup (l : List Rule) (op : Op) (hd : l.Nodup) : (step l op).Nodup := by
  cases op with
  | add pi r => exact add_nodup pi l r hd
  | addMany pi rs => exact addMany_nodup pi l rs hd
  | remove r => exact remove_nodup l r hd
  | removeMany rs => exact removeMany_nodup l rs hd
  | removeFiltered idx vals =>
    simp only [step]
    cases h : removeFiltered l idx vals with
    | error e => exact hd
    | ok p => rw [map_partitionFiltered_ok h]; exact removeFiltered_nodup l idx vals hd
  | update old new =>
    simp only [step, update_refines l old new hd]
    exact spec_update_nodup l old new hd

/-- C06: after any finite sequence of the management calls of `Op` (repeated, overlapping, absent, partly present
    arguments included) on an initially duplicate-free policy, no rule is stored twice -/
theorem nodup_invariant (ops : List Op) (l : List Rule) (hd : l.Nodup) : (ops.foldl step l).Nodup :=
  List.foldlRecOn ops step hd fun acc h op _ => step_nodup acc op h

example : (addMany none [["a"]] [["b"], ["b"], ["c"]]) = ([["a"], ["b"], ["c"]], true) := by decide
example : (addMany none [["a"]] [["b"], ["a"]]) = ([["a"]], false) := by decide
example : (removeMany [["a"], ["b"], ["c"]] [["c"], ["x"]]) = ([["a"], ["b"], ["c"]], false) := by decide
example : (removeMany [["a"], ["b"], ["c"]] [["c"], ["a"]]) = ([["b"]], true) := by decide
example : InRange 1 ["", "x"] [["a", "b", "x"], ["c", "d", "y"]] := by
  intro r hr; simp at hr; rcases hr with rfl | rfl <;> simp
example : update none [["a"], ["b"]] ["a"] ["b"] = .ok ([["a"], ["b"]], false) := by decide

end Casbin.Policy.C06
