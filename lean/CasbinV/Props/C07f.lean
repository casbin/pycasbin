import CasbinV.Props.C07b
/-!
# C07 — the fuel of the leaf-peeling loop always suffices: `get_subject_hierarchy_map` returns or reports a cycle
-/
namespace Casbin.Policy.C07b

theorem loop_no_fuel_error (fuel : Nat) (up : List HEdge) (us : List String) (k : Nat) (acc : List (String × Nat))
    (hf : us.length < fuel) : hierarchyLoop fuel up us k acc ≠ .error .fuel := by
  fun_induction hierarchyLoop fuel up us k acc with
  | case1 | case3 => simp
  | case2 => omega
  | case4 f e up us k acc sorted hne ih =>
    apply ih
    -- some subject is peeled in this round, so the list of unsorted subjects gets strictly shorter
    obtain ⟨x, hx⟩ := List.exists_mem_of_ne_nil _ (by simpa using hne)
    have hlt : (us.filter fun s => !sorted.contains s).length < us.length :=
      List.length_filter_lt_length_iff_exists.mpr ⟨x, ((mem_peelRound (e :: up) us x).mp hx).1, by simpa using hx⟩
    omega

theorem hierarchyMap_total (E : List HEdge) : hierarchyMap E ≠ .error .fuel := by
  unfold hierarchyMap
  exact loop_no_fuel_error _ _ _ _ _ (Nat.lt_succ_self _)

end Casbin.Policy.C07b
