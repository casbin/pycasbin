import CasbinV.Props.C01
/-!
# C08 — `enforce_ex` explains a decision with the rule that decided it

The explanation is the rule at `explain_index`; the model returns the index (`none` = `[]`).
-/
namespace Casbin.C08
open Casbin.C01

theorem specExplain_eq_findIdx? (k : EffectKind) (os : List Outcome) :
    specExplain k os = os.findIdx? (decisiveFor k) := by
  simp [specExplain, List.findIdx?_eq_guard_findIdx_lt, Option.guard]

theorem loopO_explain (k : EffectKind) (os : List Outcome) (s : EffSet) (idx : Nat)
    (hinv : intermediate k s = .indet) :
    (loopO k os s idx).2 = (specExplain k os).map (· + idx) := by
  rw [specExplain_eq_findIdx?]
  induction os generalizing s idx with
  | nil => rfl
  | cons o os ih =>
    rw [loopO_cons k o os s idx hinv, List.findIdx?_cons]
    cases hd : decisiveFor k o
    · have hinv' : intermediate k (s.add o.eft) = .indet := by simpa [hd] using intermediate_add k s o hinv
      simp [ih _ _ hinv', Function.comp_def, Nat.add_comm, Nat.add_left_comm]
    · simp

/-- C08: `enforce_ex` returns the effect expression's value together with the index of the earliest rule that is
    decisive for the effector (or no explanation when there is none) -/
theorem enforceEx_eq_spec {ρ : Type} (cfg : Cfg) (m : List ρ → List String → MVal)
    (policy : List (List String)) (req : List ρ) (os : List Outcome)
    (hen : cfg.enabled = true) (har : cfg.rArity = req.length) (hne : policy ≠ [])
    (hos : allOutcomes cfg m req policy = .ok os) :
    enforceEx cfg m policy req = .ok (spec cfg.kind os, specExplain cfg.kind os) := by
  simp [enforceEx, hen, har, hne, loop_eq_loopO cfg m req policy os {} 0 hos, loopO_decision,
    loopO_explain cfg.kind os {} 0 (by cases cfg.kind <;> rfl)]

/-- the decision of `enforce_ex` is that of `enforce` (for every input, errors included) -/
theorem enforceEx_fst_eq_enforce {ρ : Type} (cfg : Cfg) (m : List ρ → List String → MVal)
    (policy : List (List String)) (req : List ρ) :
    enforce cfg m policy req = (enforceEx cfg m policy req).map (·.1) := by
  unfold enforce; cases enforceEx cfg m policy req <;> rfl

theorem allOutcomes_length {ρ : Type} (cfg : Cfg) (m : List ρ → List String → MVal) (req : List ρ)
    (policy : List (List String)) (os : List Outcome) (h : allOutcomes cfg m req policy = .ok os) :
    os.length = policy.length := by
  induction policy generalizing os with
  | nil => cases h; rfl
  | cons p ps ih =>
    obtain ⟨o, os', _, hos, rfl⟩ := allOutcomes_cons.mp h
    simp [ih os' hos]

/-- `allOutcomes` keeps positions: the i-th outcome is that of the i-th rule. With `allOutcomes_length` this carries
    what the `explain_*` theorems below say of an index into the outcomes over to the rule at that index of the policy. -/
theorem allOutcomes_get {ρ : Type} (cfg : Cfg) (m : List ρ → List String → MVal) (req : List ρ)
    (policy : List (List String)) (os : List Outcome) (h : allOutcomes cfg m req policy = .ok os)
    (i : Nat) (p : List String) (hp : policy[i]? = some p) :
    ∃ o, os[i]? = some o ∧ ruleOutcome cfg m req p = .ok o := by
  induction policy generalizing os i with
  | nil => simp at hp
  | cons q qs ih =>
    obtain ⟨o, os', ho, hos, rfl⟩ := allOutcomes_cons.mp h
    cases i with
    | zero => cases hp; exact ⟨o, rfl, ho⟩
    | succ j => exact ih os' hos j hp

/-! ## What an explanation means (statements about `specExplain` / `spec`) -/

/-- the explaining rule is decisive for the effector, and no earlier rule is -/
theorem explain_is_earliest_decisive (k : EffectKind) (os : List Outcome) (i : Nat)
    (h : specExplain k os = some i) :
    (∃ o, os[i]? = some o ∧ decisiveFor k o = true) ∧
    (∀ j o, j < i → os[j]? = some o → decisiveFor k o = false) := by
  obtain ⟨hi, hd, hlt⟩ := List.findIdx?_eq_some_iff_getElem.mp (specExplain_eq_findIdx? k os ▸ h)
  refine ⟨⟨os[i], List.getElem?_eq_getElem hi, hd⟩, fun j o hj ho => ?_⟩
  obtain ⟨hj', rfl⟩ := List.getElem?_eq_some_iff.mp ho
  simpa using hlt j hj

/-- the explanation index is in range (`explain_index < policy_len`: the outcomes are as many as the rules,
    `allOutcomes_length`) -/
theorem explain_in_range (k : EffectKind) (os : List Outcome) (i : Nat)
    (h : specExplain k os = some i) : i < os.length :=
  (List.findIdx?_eq_some_iff_getElem.mp (specExplain_eq_findIdx? k os ▸ h)).1

theorem decisiveFor_matches (k : EffectKind) (o : Outcome) (h : decisiveFor k o = true) :
    o = .mAllow ∨ o = .mDeny := by
  cases k <;> cases o <;> simp_all [decisiveFor, decisive, Outcome.isAllow, Outcome.isDeny]

/-- the decision is the effect of the earliest rule decisive for the effector, when there is one -/
theorem spec_of_find (k : EffectKind) (os : List Outcome) (o : Outcome)
    (h : os.find? (decisiveFor k) = some o) : spec k os = o.isAllow := by
  have hd := List.find?_some h
  have hm : os.any (decisiveFor k) = true := List.any_eq_true.mpr ⟨o, List.mem_of_find?_eq_some h, hd⟩
  cases k
  case allowOverride => exact hm.trans hd.symm
  case priority => rw [spec, show os.find? decisive = some o from h]; cases o <;> first | rfl | cases hd
  -- some rule denies, and `o` is a deny, not an allow
  all_goals
    have ho : o.isAllow = false := by cases o <;> first | rfl | cases hd
    simp only [spec, show os.any (·.isDeny) = true from hm, ho, Bool.not_true, Bool.and_false]

theorem explain_effect_eq_decision (k : EffectKind) (os : List Outcome) (i : Nat)
    (h : specExplain k os = some i) :
    (os[i]? = some .mAllow ↔ spec k os = true) ∧ (os[i]? = some .mDeny ↔ spec k os = false) := by
  rw [specExplain_eq_findIdx?, List.findIdx?_eq_some_iff_findIdx_eq] at h
  have hf : os.find? (decisiveFor k) = os[i]? := h.2 ▸ List.find?_eq_getElem?_findIdx
  rw [List.getElem?_eq_getElem h.1] at hf ⊢
  rw [spec_of_find k os _ hf]
  rcases decisiveFor_matches k _ (List.find?_some hf) with ho | ho <;> simp [ho, Outcome.isAllow]

theorem explain_present_iff (k : EffectKind) (os : List Outcome) :
    (specExplain k os).isSome = os.any (decisiveFor k) := by
  rw [specExplain_eq_findIdx?, List.findIdx?_isSome]

theorem allow_is_explained (k : EffectKind) (hk : k = .allowOverride ∨ k = .priority)
    (os : List Outcome) (h : spec k os = true) : (specExplain k os).isSome = true := by
  rw [explain_present_iff]
  rcases hk with rfl | rfl
  · simpa [spec, decisiveFor] using h
  · simp only [spec] at h
    split at h
    · rename_i hf; exact List.any_eq_true.mpr ⟨_, List.mem_of_find?_eq_some hf, List.find?_some hf⟩
    · cases h

/-- a deny caused by an explicit deny rule always carries an explanation: under deny-override and
    allow-and-deny whenever a deny rule matches, under priority whenever the first definite match denies -/
theorem explicit_deny_is_explained (k : EffectKind) (os : List Outcome) :
    ((k = .denyOverride ∨ k = .allowAndDeny) → os.any (·.isDeny) = true → (specExplain k os).isSome = true) ∧
    (k = .priority → os.find? decisive = some .mDeny → (specExplain k os).isSome = true) := by
  rw [explain_present_iff]
  constructor
  · rintro (rfl | rfl) h <;> simpa [decisiveFor] using h
  · rintro rfl h
    exact List.any_eq_true.mpr ⟨_, List.mem_of_find?_eq_some h, List.find?_some h⟩

theorem default_is_unexplained (k : EffectKind) (os : List Outcome) :
    (k = .allowOverride → spec k os = false → specExplain k os = none) ∧
    (k = .denyOverride → spec k os = true → specExplain k os = none) ∧
    (k = .allowAndDeny → os.any (·.isDeny) = false → specExplain k os = none) ∧
    (k = .priority → os.find? decisive = none → specExplain k os = none) := by
  simp only [← Option.not_isSome_iff_eq_none, explain_present_iff, Bool.not_eq_true]
  refine ⟨?_, ?_, ?_, ?_⟩ <;> rintro rfl h
  · simpa [spec, decisiveFor] using h
  · simpa [spec, decisiveFor] using h
  · simpa [decisiveFor] using h
  · simpa [decisiveFor, List.find?_eq_none] using h

example : specExplain .priority [.noMatch, .mOther, .mDeny, .mAllow] = some 2 ∧
    spec .priority [.noMatch, .mOther, .mDeny, .mAllow] = false := by decide

example : specExplain .allowAndDeny [.mAllow, .mOther] = none ∧
    spec .allowAndDeny [.mAllow, .mOther] = true := by decide

end Casbin.C08
