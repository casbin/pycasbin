import CasbinV.Proofs.EnfStep
import CasbinV.Props.C06u
/-!
# C09 — with auto-save the adapter's store mirrors the in-memory policy

Subject: the adapter traffic of `Casbin.Enf.step` against a *faithful* adapter (`applyACall`): ordered rule sets per
section that apply exactly the call they are given.
-/
namespace Casbin.Enf.C09
open Casbin.Policy Casbin.Policy.C06

/-- the adapter holds exactly the in-memory policy (same rules, same order, every section) -/
def Mirror (s : St) : Prop := s.store = s.pol

/-- every section of the in-memory policy is duplicate-free (C06's invariant) -/
def NodupPol (m : Pol) : Prop := m.p.Nodup ∧ m.g.Nodup ∧ m.g2.Nodup

theorem NodupPol.get {m : Pol} (h : NodupPol m) (sec : Sec) : (m.get sec).Nodup := by
  cases sec
  · exact h.1
  · exact h.2.1
  · exact h.2.2

theorem set_set (m : Pol) (sec : Sec) (a : List Rule) : ∀ b, (m.set sec a = m.set sec b ↔ a = b) := by
  intro b; cases sec <;> simp [Pol.set]

/-- the faithful adapter, given the call of a committed change, computes from the old rules what memory computed -/
theorem _root_.Casbin.Enf.Commits.adapter_agrees {cfg : Cfg} {s : St} {op : Op} {ch : Change}
    (hc : Commits cfg s op ch) (hd : (s.pol.get ch.sec).Nodup) (cur : Pol) :
    applyACall s.pol cur ch.call = s.pol.set ch.sec ch.l := by
  cases hc <;> simp only [applyACall] at hd ⊢
  case add h _ => rw [← add_refines, h]
  case addMany h _ => simp only [addMany_ok h, add_refines]
  case remove h => rw [(remove_ok h).2, hd.erase_eq_filter]
  case removeMany h => rw [(removeMany_ok h).2, foldl_erase_eq_filter _ _ hd]
  case removeFiltered h => rw [Spec.removeFiltered, (partitionFiltered_ok _ _ _ _ _ h).2]
  case update h =>
    rw [update_refines _ _ _ hd, Spec.update] at h
    split at h <;> cases h
    rfl
  case updateMany h =>
    rw [updateMany_refines _ _ _ hd, Spec.updateMany] at h
    split at h <;> cases h
    rfl

/-- with an adapter and auto-save on, every policy-changing call keeps the mirror (the section it changes must be
    duplicate-free: memory removes one occurrence, the adapter all) -/
theorem mirror_change (cfg : Cfg) (s : St) (op : Op) (had : cfg.hasAdapter = true) (hsave : s.autoSave = true)
    (hm : Mirror s) (hop : C20.isChange op = true) (hd : ∀ ch, Commits cfg s op ch → (s.pol.get ch.sec).Nodup) :
    Mirror (step cfg s op).1 := by
  refine step_of_commits cfg s op hop hm fun ch hc => ?_
  unfold Mirror at hm ⊢
  rw [commit_store, commit_pol, had, hsave, Bool.and_self, if_pos rfl, hm]
  exact hc.adapter_agrees (hd ch hc) _

/-- C09, the mirror step: with an adapter and auto-save on, every policy-changing management call (single, batch,
    filtered, update) leaves the faithful adapter holding exactly the in-memory policy — whether the call succeeds,
    is rejected, or raises. -/
theorem mirror_step (cfg : Cfg) (s : St) (op : Op) (had : cfg.hasAdapter = true) (hsave : s.autoSave = true)
    (hm : Mirror s) (hd : NodupPol s.pol)
    (hop : match op with
      | .add .. | .addMany .. | .remove .. | .removeMany .. | .removeFiltered .. | .update .. => True
      | _ => False) :
    Mirror (step cfg s op).1 := by
  refine mirror_change cfg s op had hsave hm ?_ fun ch _ => hd.get ch.sec
  cases op <;> first | rfl | exact hop.elim

/-- a call that reports failure or "no change" has told the adapter nothing -/
theorem failed_call_silent (cfg : Cfg) (s : St) (op : Op)
    (hop : match op with
      | .add .. | .addMany .. | .remove .. | .removeMany .. | .removeFiltered .. | .update .. | .updateMany .. => True
      | _ => False)
    (hfail : (step cfg s op).2 = .ok (.bool false) ∨ (step cfg s op).2 = .ok (.rules [])) :
    (step cfg s op).1.alog = s.alog ∧ (step cfg s op).1.store = s.store := by
  have hch : C20.isChange op = true := by cases op <;> first | rfl | exact hop.elim
  have : (step cfg s op).1 = s := by
    rcases hfail with h | h <;> exact unchanged_of_unsuccessful cfg s op hch _ h rfl
  rw [this]; exact ⟨rfl, rfl⟩

/-- with auto-save off (or without an adapter) the adapter is not written by any management call -/
theorem autosave_off_no_calls (cfg : Cfg) (s : St) (op : Op)
    (hop : match op with
      | .add .. | .addMany .. | .remove .. | .removeMany .. | .removeFiltered .. | .update .. | .updateMany .. => True
      | _ => False)
    (hoff : (cfg.hasAdapter && s.autoSave) = false) :
    (step cfg s op).1.alog = s.alog ∧ (step cfg s op).1.store = s.store := by
  have hch : C20.isChange op = true := by cases op <;> first | rfl | exact hop.elim
  exact step_of_commits (P := fun s' => s'.alog = s.alog ∧ s'.store = s.store) cfg s op hch ⟨rfl, rfl⟩
    fun ch _ => by rw [commit_alog, commit_store, hoff]; exact ⟨rfl, rfl⟩

/-- `save_policy` stores exactly the in-memory policy -/
theorem save_writes_memory (cfg : Cfg) (s : St) : Mirror (step cfg s .savePolicy).1 := by
  simp only [step, Mirror]; split <;> rfl

/-- `load_policy` directly after a mirrored state changes no rule (hence, with C04, no decision) -/
theorem reload_is_identity (cfg : Cfg) (s : St) (hm : Mirror s) :
    (step cfg s (.loadPolicy none)).1.pol = s.pol := by
  unfold Mirror at hm
  simp only [step, failsAt, Bool.false_eq_true, ↓reduceIte, loadCore]
  split
  · split
    · split <;> rfl
    · exact hm
  · exact hm

example :
    let cfg : Cfg := { hasAdapter := true }
    let s := (step cfg {} (.addMany .p [["a", "x"], ["b", "x"], ["a", "x"]])).1
    s.store = s.pol ∧ NodupPol s.pol ∧ s.alog = [.addPolicies .p [["a", "x"], ["b", "x"], ["a", "x"]]] ∧
    s.store.p = [["a", "x"], ["b", "x"]] := by
  refine ⟨by decide, ⟨by decide, by decide, by decide⟩, by decide, by decide⟩

end Casbin.Enf.C09
