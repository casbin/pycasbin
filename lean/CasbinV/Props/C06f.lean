import CasbinV.Props.C06r
/-!
# C06 (filtered update) — `update_filtered_policies` is all-or-nothing

`_update_filtered_policies` (F16) refuses - before the adapter or the model is touched - when the filter selects
nothing, when there are no new rules, or when a new rule is already held outside the selection; otherwise it removes the
selection and adds the new rules (each once): that is the all-or-nothing specification (`updateFiltered_eq_spec`).
`unrepaired_not_all_or_nothing_witness`: the in-memory half alone, without that guard, is not all-or-nothing.
-/
namespace Casbin.Policy.C06

theorem updateFilteredWith_nodup (l old news : List Rule) (hd : l.Nodup) : (updateFilteredWith l old news).1.Nodup := by
  unfold updateFilteredWith
  split
  · exact hd
  · exact addMany_nodup none _ news (removeMany_nodup l old hd)

theorem updateFiltered_nodup (l news l' : List Rule) (idx : Nat) (vals : List String) (ok : Bool) (hd : l.Nodup)
    (h : updateFiltered l news idx vals = .ok (l', ok)) : l'.Nodup := by
  unfold updateFiltered at h
  cases hg : getFiltered l idx vals with
  | error e => rw [hg] at h; simp [Except.map] at h
  | ok old =>
    rw [hg] at h
    simp only [Except.map, Except.ok.injEq] at h
    split at h
    · cases h; exact hd
    · have := updateFilteredWith_nodup l old news hd
      rw [h] at this; exact this

/-- the guard is exactly the negation of the specification's condition -/
theorem refused_iff (l news : List Rule) (idx : Nat) (vals : List String) :
    updateFilteredRefused l (l.filter (Spec.matchesFilter idx vals)) news =
      !(l.any (Spec.matchesFilter idx vals) && !news.isEmpty &&
        news.all (fun r => !(l.filter fun r => !Spec.matchesFilter idx vals r).contains r)) := by
  rw [updateFilteredRefused, filter_not_contains_filter, isEmpty_filter]
  simp only [Bool.not_and, Bool.not_not, List.not_all_eq_any_not]

theorem updateFilteredWith_accepted (l news : List Rule) (p : Rule → Bool) (hd : l.Nodup)
    (hacc : updateFilteredRefused l (l.filter p) news = false) :
    updateFilteredWith l (l.filter p) news =
      (news.foldl (fun acc r => (add none acc r).1) (l.filter fun x => !p x), true) := by
  rw [updateFilteredRefused, filter_not_contains_filter] at hacc
  simp only [Bool.or_eq_false_iff] at hacc
  obtain ⟨⟨hold, hnews⟩, hcol⟩ := hacc
  -- no new rule is held by the rest, so the batch add goes through
  have hadd : (news.any (· ∈ l.filter fun x => !p x)) = false := by simpa using hcol
  simp only [updateFilteredWith, hold, hnews, removeMany_filter_eq l p hd, addMany_eq, hadd]
  rfl

/-- a call the guard lets through reports success and leaves the unselected rules and the new ones
    (`updateFilteredWith_accepted` is the list itself) -/
theorem with_applies (l news : List Rule) (idx : Nat) (vals : List String) (hd : l.Nodup)
    (hacc : updateFilteredRefused l (l.filter (Spec.matchesFilter idx vals)) news = false) :
    (updateFilteredWith l (l.filter (Spec.matchesFilter idx vals)) news).2 = true ∧
    (∀ x, x ∈ (updateFilteredWith l (l.filter (Spec.matchesFilter idx vals)) news).1 ↔
      (x ∈ l ∧ Spec.matchesFilter idx vals x = false) ∨ x ∈ news) := by
  simp [updateFilteredWith_accepted l news _ hd hacc, foldl_add_mem]

/-- the filtered update IS the all-or-nothing specification: same result, same rule list -/
theorem updateFiltered_eq_spec (l news : List Rule) (idx : Nat) (vals : List String) (hd : l.Nodup)
    (hr : InRange idx vals l) :
    updateFiltered l news idx vals = .ok (Spec.updateFiltered l news idx vals) := by
  have hw := updateFilteredWith_accepted l news (Spec.matchesFilter idx vals) hd
  unfold updateFiltered Spec.updateFiltered
  rw [getFiltered_exact l idx vals hr, Spec.getFiltered]
  simp only [Except.map, refused_iff] at hw ⊢
  generalize hC : (l.any _ && !news.isEmpty && _) = C at hw ⊢
  cases C
  · rfl
  · -- the guard says that no new rule is held by the rest, so all of them are appended
    simp only [hw rfl, foldl_add_eq_append]
    simp only [Bool.and_eq_true, List.all_eq_true] at hC
    rw [List.filter_eq_self (l := news) |>.mpr fun x hx => by simpa using hC.2 x hx]; rfl

/-- `updateFiltered_eq_spec` read for membership: same result, same rule set -/
theorem updateFiltered_refines (l news : List Rule) (idx : Nat) (vals : List String) (hd : l.Nodup)
    (hr : InRange idx vals l) :
    ∃ l', updateFiltered l news idx vals = .ok (l', (Spec.updateFiltered l news idx vals).2) ∧
      ∀ x, x ∈ l' ↔ x ∈ (Spec.updateFiltered l news idx vals).1 :=
  ⟨_, updateFiltered_eq_spec l news idx vals hd hr, fun _ => Iff.rfl⟩

/-- a filtered update that answers `False` has changed nothing - on any rule list, whatever the filter: once the guard
    lets the call through, every selected rule is present and there are new rules, so the call answers `True` -/
theorem updateFiltered_rejected (l news l' : List Rule) (idx : Nat) (vals : List String)
    (h : updateFiltered l news idx vals = .ok (l', false)) : l' = l := by
  unfold updateFiltered at h
  cases hg : getFiltered l idx vals with
  | error e => simp [hg, Except.map] at h
  | ok old =>
    simp only [hg, Except.map, Except.ok.injEq] at h
    split at h
    · cases h; rfl
    · rename_i hc
      simp only [updateFilteredRefused, Bool.or_eq_true, not_or, Bool.not_eq_true] at hc
      have hall : (removeMany l old).2 = true := by
        rw [removeMany_result, getFiltered_ok l old idx vals hg, Spec.getFiltered]; simp +contextual
      simp [updateFilteredWith, hc.1.1, hc.1.2, hall] at h

/-- a filtered update that answers `False` has changed nothing (`updateFiltered_rejected`, which needs neither
    duplicate-freeness nor rules long enough for the filter) -/
theorem updateFiltered_all_or_nothing (l news l' : List Rule) (idx : Nat) (vals : List String)
    (h : updateFiltered l news idx vals = .ok (l', false)) (hd : l.Nodup) (hr : InRange idx vals l) : l' = l :=
  updateFiltered_rejected l news l' idx vals h

/-- F16: the in-memory half without the guard is not all-or-nothing. A new rule already held outside the selection
    makes the add fail after the selection was removed and the call still reports success; with no new rules the
    selection is removed and the call reports failure -/
theorem unrepaired_not_all_or_nothing_witness :
    updateFilteredWith [["a", "1"], ["a", "2"], ["b", "1"]] [["a", "1"], ["a", "2"]] [["b", "1"]] = ([["b", "1"]], true) ∧
    Spec.updateFiltered [["a", "1"], ["a", "2"], ["b", "1"]] [["b", "1"]] 0 ["a"] = ([["a", "1"], ["a", "2"], ["b", "1"]], false) ∧
    updateFilteredWith [["a", "1"], ["b", "1"]] [["a", "1"]] [] = ([["b", "1"]], false) ∧
    Spec.updateFiltered [["a", "1"], ["b", "1"]] [] 0 ["a"] = ([["a", "1"], ["b", "1"]], false) := by decide

example : updateFiltered [["a", "1"], ["a", "2"], ["b", "1"]] [["c", "1"], ["a", "1"]] 0 ["a"] =
    .ok ([["b", "1"], ["c", "1"], ["a", "1"]], true) := by decide
example : updateFiltered [["a", "1"], ["a", "2"], ["b", "1"]] [["b", "1"]] 0 ["a"] =
    .ok ([["a", "1"], ["a", "2"], ["b", "1"]], false) := by decide

end Casbin.Policy.C06
