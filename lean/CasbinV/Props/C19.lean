import CasbinV.Model.Fast
import CasbinV.Proofs.FastIndex
import CasbinV.Props.C01
import CasbinV.Props.C06
import CasbinV.Props.C06u
/-!
# C19 — FastEnforcer decides exactly like Enforcer

Subject: `Model/Fast.lean` (tied to casbin/model/policy_fast.py, model_fast.py, fast_enforcer.py and the
generic code of policy.py by the three-way correspondence run of tools/harness/props/c19.py).
-/
namespace Casbin.C19
open Casbin.Fast

variable {order : List Nat}

/-- the indexed container is between two calls and iterates exactly the rules of `l` (as a set) -/
structure Holds (p : FastPolicy order) (l : List Rule) : Prop where
  inv : Inv p
  same : ∀ x, x ∈ p.iter ↔ x ∈ l

theorem holds_new (order : List Nat) : Holds (FastPolicy.new order) [] :=
  ⟨inv_new order, fun x => by simp [FastPolicy.iter, FastPolicy.new, flatten_empty]⟩

theorem Holds.congr {p : FastPolicy order} {l l' : List Rule} (h : Holds p l) (hl : ∀ x, x ∈ l ↔ x ∈ l') :
    Holds p l' :=
  ⟨h.inv, fun x => (h.same x).trans (hl x)⟩

theorem Holds.contains {p : FastPolicy order} {l : List Rule} (h : Holds p l) (r : Rule) :
    p.contains r = l.contains r := by
  rw [Bool.eq_iff_iff, contains_iff p h.inv, h.same, List.contains_iff_mem]

/-- `append` of a rule that has every key position -/
theorem Holds.append {p : FastPolicy order} {l : List Rule} (h : Holds p l) (r : Rule) (hne : order ≠ [])
    (hr : order.any (fun i => i ≥ r.length) = false) : ∃ p', p.append r = .ok p' ∧ Holds p' (l ++ [r]) := by
  obtain ⟨p', ha⟩ := (append_ok_iff p r).mpr ⟨hne, hr⟩
  obtain ⟨hi, hm⟩ := append_spec p p' r h.inv ha
  exact ⟨p', ha, hi, fun x => by rw [hm, h.same, List.mem_append, List.mem_singleton, or_comm]⟩

theorem Holds.remove {p : FastPolicy order} {l : List Rule} (h : Holds p l) (r : Rule) (hne : order ≠ [])
    (hr : r ∈ l) : ∃ p', p.remove r = .ok p' ∧ Holds p' (l.filter (· != r)) := by
  obtain ⟨p', ha, hi, hm⟩ := remove_spec p r hne h.inv ((h.same r).mpr hr)
  exact ⟨p', ha, hi, fun x => by rw [hm, h.same, List.mem_filter, bne_iff_ne, and_comm]⟩

/-! ## The container is a set (all append/remove histories) -/

inductive COp
  | append (r : Rule)
  | remove (r : Rule)
  deriving Repr

/-- the container protocol as the generic policy code drives it: `append` only after `rule in policy`
    was false, `remove` only after it was true; an `append` that raises (the rule is too short for a
    key position) leaves the container as it was -/
def stepC (p : FastPolicy order) : COp → FastPolicy order
  | .append r => if p.contains r then p else match p.append r with | .ok p' => p' | .error _ => p
  | .remove r => if p.contains r then match p.remove r with | .ok p' => p' | .error _ => p else p

def runC (p : FastPolicy order) (ops : List COp) : FastPolicy order := ops.foldl stepC p

/-- the same history on a mathematical set of rules (as a duplicate-free list) -/
def stepS (order : List Nat) (s : List Rule) : COp → List Rule
  | .append r => if s.contains r || order.any (fun i => i ≥ r.length) then s else s ++ [r]
  | .remove r => s.filter (fun x => x != r)

def runS (order : List Nat) (s : List Rule) (ops : List COp) : List Rule := ops.foldl (stepS order) s

theorem stepC_sim (hne : order ≠ []) (p : FastPolicy order) (s : List Rule) (op : COp) (h : Holds p s) :
    Holds (stepC p op) (stepS order s op) := by
  cases op with
  | append r =>
    simp only [stepC, stepS, h.contains]
    by_cases hc : r ∈ s
    · simpa [hc] using h
    · by_cases hany : order.any (fun i => i ≥ r.length) = true
      · -- the rule lacks a key position: `append` raises
        cases ha : p.append r with
        | ok p' => have := (append_ok_iff p r).mp ⟨p', ha⟩; simp [hany] at this
        | error e => simpa [hc, hany] using h
      · obtain ⟨p', ha, h'⟩ := h.append r hne (by simpa using hany)
        simpa [hc, hany, ha] using h'
  | remove r =>
    simp only [stepC, stepS, h.contains]
    by_cases hc : r ∈ s
    · obtain ⟨p', ha, h'⟩ := h.remove r hne hc
      simpa [hc, ha] using h'
    · simp only [List.contains_iff_mem, hc, ↓reduceIte]
      exact h.congr fun x => by
        rw [List.mem_filter, bne_iff_ne]
        exact ⟨fun hx => ⟨hx, fun e => hc (e ▸ hx)⟩, And.left⟩

theorem runC_sim (hne : order ≠ []) (p : FastPolicy order) (s : List Rule) (ops : List COp) (h : Holds p s) :
    Holds (runC p ops) (runS order s ops) := by
  induction ops generalizing p s with
  | nil => exact h
  | cons op ops ih => exact ih _ _ (stepC_sim hne p s op h)

/-- After any history of appends and removes (driven like the generic policy code drives them) the indexed
    container answers `in` and iterates exactly like the set on which the same history was performed
    (buckets: `bucket_exact_history`). -/
theorem container_is_set (hne : order ≠ []) (ops : List COp) :
    let p := runC (FastPolicy.new order) ops
    Inv p ∧ (∀ x, p.contains x = true ↔ x ∈ runS order [] ops) ∧ (∀ x, x ∈ p.iter ↔ x ∈ runS order [] ops) := by
  intro p
  obtain ⟨h1, h2⟩ := runC_sim hne _ _ ops (holds_new order)
  exact ⟨h1, fun x => by rw [contains_iff _ h1, h2], h2⟩

/-- `bucket_exact` over all histories -/
theorem bucket_exact_history (hne : order ≠ []) (ops : List COp) (keys : List String)
    (hk : keys.length = order.length) (x : Rule) :
    x ∈ (runC (FastPolicy.new order) ops).bucket keys ↔
      x ∈ runS order [] ops ∧ keysOf order x = some keys := by
  obtain ⟨h1, _, h3⟩ := container_is_set hne ops
  rw [bucket_exact _ h1 keys hk, h3]

/-- a rule that is in the policy is in the bucket of its own key fields — the
    one `FastEnforcer.enforce` selects for every request that agrees with the rule on those fields -/
theorem index_never_hides (hne : order ≠ []) (ops : List COp) (x : Rule) (keys : List String)
    (hx : x ∈ runS order [] ops) (hk : keysOf order x = some keys) :
    x ∈ (runC (FastPolicy.new order) ops).bucket keys :=
  (bucket_exact_history hne ops keys (keysOf_length _ _ _ hk) x).mpr ⟨hx, hk⟩

/-- a rule that is not (or no longer) in the policy is in no bucket and is
    not iterated -/
theorem index_never_resurrects (hne : order ≠ []) (ops : List COp) (x : Rule)
    (hx : x ∉ runS order [] ops) :
    (∀ keys, x ∉ (runC (FastPolicy.new order) ops).bucket keys) ∧
      x ∉ (runC (FastPolicy.new order) ops).iter ∧ (runC (FastPolicy.new order) ops).contains x = false := by
  obtain ⟨h1, h2, h3⟩ := container_is_set hne ops
  refine ⟨fun keys hb => hx ((h3 x).mp (bucket_sub_iter _ h1 keys x hb)), fun h => hx ((h3 x).mp h), ?_⟩
  rw [← Bool.not_eq_true, h2]; exact hx

/-- so `runS` is a set: its list stays duplicate-free -/
theorem runS_nodup (order : List Nat) (s : List Rule) (ops : List COp) (h : s.Nodup) :
    (runS order s ops).Nodup := by
  induction ops generalizing s with
  | nil => exact h
  | cons op ops ih =>
    apply ih
    cases op with
    | append r =>
      simp only [stepS]
      split
      · exact h
      · next hc => exact nodup_snoc h fun hr => hc (by simp [hr])
    | remove r => exact h.filter _

theorem enforceExView_eq {ρ : Type} (cfg : Cfg) (m : List ρ → List String → MVal)
    (policy : List Rule) (req : List ρ) :
    enforceExView cfg m policy.length policy req = enforceEx cfg m policy req := by
  unfold enforceExView enforceEx
  cases policy with
  | nil => rfl
  | cons p ps => simp; rfl

theorem enforceView_eq {ρ : Type} (cfg : Cfg) (m : List ρ → List String → MVal)
    (policy : List Rule) (req : List ρ) :
    enforceView cfg m policy.length policy req = enforce cfg m policy req := by
  unfold enforceView enforce; rw [enforceExView_eq]; rfl

/-- with a non-zero `len` the decision over the iterated rules is the effect expression over their
    outcomes — also when *no* rule is iterated (empty bucket of a non-empty policy) -/
theorem enforceView_eq_spec {ρ : Type} (cfg : Cfg) (m : List ρ → List String → MVal) (total : Nat)
    (view : List Rule) (req : List ρ) (os : List Outcome)
    (hen : cfg.enabled = true) (har : cfg.rArity = req.length) (ht : total ≠ 0)
    (hos : C01.allOutcomes cfg m req view = .ok os) :
    enforceView cfg m total view req = .ok (spec cfg.kind os) := by
  simp [enforceView, enforceExView, hen, har, ht, C01.loop_eq_loopO cfg m req view os {} 0 hos, C01.loopO_decision]

/-- every rule of the list can be classified (right arity, matcher result bool/float) -/
def Classifiable {ρ : Type} (cfg : Cfg) (m : List ρ → List String → MVal) (req : List ρ) (l : List Rule) : Prop :=
  ∀ p ∈ l, ∃ o, ruleOutcome cfg m req p = .ok o

/-- the outcome of a classifiable rule -/
def outcomeD {ρ : Type} (cfg : Cfg) (m : List ρ → List String → MVal) (req : List ρ) (p : Rule) : Outcome :=
  match ruleOutcome cfg m req p with
  | .ok o => o
  | .error _ => .noMatch

theorem allOutcomes_of_classifiable {ρ : Type} (cfg : Cfg) (m : List ρ → List String → MVal) (req : List ρ)
    (l : List Rule) (h : Classifiable cfg m req l) :
    C01.allOutcomes cfg m req l = .ok (l.map (outcomeD cfg m req)) :=
  C01.allOutcomes_eq_map fun p hp => by
    obtain ⟨o, ho⟩ := h p hp
    rw [outcomeD, ho]

/-- under the order-insensitive effect expressions the decision depends only on the *set* of
    matching rules -/
theorem spec_matching_set (k : EffectKind) (hk : k ≠ .priority) (f : Rule → Outcome) (l1 l2 : List Rule)
    (h : ∀ p, (p ∈ l1 ∧ (f p).isNoMatch = false) ↔ (p ∈ l2 ∧ (f p).isNoMatch = false)) :
    spec k (l1.map f) = spec k (l2.map f) := by
  apply C01.spec_congr_mem k hk
  intro o ho
  simp only [List.mem_map]
  constructor
  · rintro ⟨p, hp, rfl⟩
    exact ⟨p, ((h p).mp ⟨hp, ho⟩).1, rfl⟩
  · rintro ⟨p, hp, rfl⟩
    exact ⟨p, ((h p).mpr ⟨hp, ho⟩).1, rfl⟩

/-- "the matcher implies equality on the key fields": a rule of the policy that the matcher does not
    reject for this request carries the request's values at the cache-key positions -/
def KeysImplied {ρ : Type} (cfg : Cfg) (m : List ρ → List String → MVal) (order : List Nat)
    (req : List ρ) (keys : List String) (l : List Rule) : Prop :=
  ∀ p ∈ l, (outcomeD cfg m req p).isNoMatch = false → keysOf order p = some keys

theorem enforceView_zero {ρ : Type} (cfg : Cfg) (m : List ρ → List String → MVal)
    (view : List Rule) (req : List ρ) :
    enforceView cfg m 0 view req = enforce cfg m [] req := by
  rw [← enforceView_eq]
  unfold enforceView enforceExView
  simp

/-- the ordinary decision procedure run on a *view* of the policy (what the container iterates)
    with the policy's true size: equal to the decision on the whole policy as soon as the view is a
    part of the policy that contains every matching rule -/
theorem view_eq_plain {ρ : Type} (cfg : Cfg) (m : List ρ → List String → MVal) (total : Nat)
    (view plain : List Rule) (req : List ρ)
    (htot : total = 0 ↔ plain = [])
    (hkind : cfg.kind ≠ .priority)
    (hcls : Classifiable cfg m req plain)
    (hsub : ∀ x ∈ view, x ∈ plain)
    (hmatch : cfg.rArity = req.length → ∀ x ∈ plain, (outcomeD cfg m req x).isNoMatch = false → x ∈ view) :
    enforceView cfg m total view req = enforce cfg m plain req := by
  by_cases hen : cfg.enabled = true
  · by_cases har : cfg.rArity = req.length
    · by_cases hp : plain = []
      · subst hp
        rw [htot.mpr rfl]; exact enforceView_zero cfg m view req
      · rw [enforceView_eq_spec cfg m total view req _ hen har (fun h => hp (htot.mp h))
            (allOutcomes_of_classifiable cfg m req view fun x hx => hcls x (hsub x hx)),
          C01.enforce_eq_spec cfg m plain req _ hen har hp (allOutcomes_of_classifiable cfg m req plain hcls)]
        congr 1
        exact spec_matching_set _ hkind _ _ _ fun x =>
          ⟨fun ⟨hx, hn⟩ => ⟨hsub x hx, hn⟩, fun ⟨hx, hn⟩ => ⟨hmatch har x hx hn, hn⟩⟩
    · simp [enforceView, enforceExView, enforce, enforceEx, hen, har]
  · simp [enforceView, enforceExView, enforce, enforceEx, hen]

theorem clearFilter_applyFilter (p : FastPolicy order) (h : p.filter = none) (keys : List String) :
    (p.applyFilter keys).clearFilter = p := by
  cases p; simp_all [FastPolicy.applyFilter, FastPolicy.clearFilter]

/-- the index never hides a rule that could match: every rule of the policy that the matcher does not
    reject for a request lies in the bucket `FastEnforcer.enforce` selects for that request -/
theorem matching_rule_in_selected_bucket {ρ : Type} (cfg : Cfg) (m : List ρ → List String → MVal)
    (p : FastPolicy order) (plain : List Rule) (req : List ρ) (keys : List String) (x : Rule)
    (hinv : Inv p) (hsame : ∀ x, x ∈ p.iter ↔ x ∈ plain) (hl : keys.length = order.length)
    (hkeys : KeysImplied cfg m order req keys plain) (hx : x ∈ plain)
    (hm : (outcomeD cfg m req x).isNoMatch = false) : x ∈ p.bucket keys :=
  (bucket_exact p hinv keys hl x).mpr ⟨(hsame x).mpr hx, hkeys x hx hm⟩

/-- the index never resurrects a rule: whatever bucket is selected holds current rules only -/
theorem selected_bucket_sub_policy (p : FastPolicy order) (plain : List Rule) (keys : List String) (x : Rule)
    (hinv : Inv p) (hsame : ∀ x, x ∈ p.iter ↔ x ∈ plain) (hx : x ∈ p.bucket keys) : x ∈ plain :=
  (hsame x).mp (bucket_sub_iter p hinv keys x hx)

theorem Holds.len_eq_zero {p : FastPolicy order} {l : List Rule} (h : Holds p l) : p.len = 0 ↔ l = [] := by
  rw [FastPolicy.len, h.inv.size_eq, ← iter_eq p h.inv, List.length_eq_zero_iff, List.eq_nil_iff_forall_not_mem,
    List.eq_nil_iff_forall_not_mem]
  exact forall_congr' fun x => not_congr (h.same x)

/-- For every effect expression that does not depend on the rule order, every
    matcher, every request and every policy that the indexed container and a plain list hold in
    common: if every rule can be classified and the matcher implies equality on the key fields,
    `FastEnforcer.enforce` returns what `Enforcer.enforce` returns — decision or exception — and
    leaves the container as it was (filter cleared).  No side condition about empty buckets: `len` is the
    size of the policy, not of the selected bucket (F14e; `fast_eq_plain_partial` is the other case). -/
theorem fast_eq_plain (cfg : Cfg) (m : List String → List String → MVal) (p : FastPolicy order)
    (plain : List Rule) (req : List String)
    (hinv : Inv p) (hsame : ∀ x, x ∈ p.iter ↔ x ∈ plain)
    (hkind : cfg.kind ≠ .priority)
    (hcls : Classifiable cfg m req plain)
    (hkeys : cfg.rArity = req.length → ∀ keys, keysOf order req = some keys → KeysImplied cfg m order req keys plain) :
    fastEnforce cfg m p req = (p, enforce cfg m plain req) := by
  have htot := Holds.len_eq_zero ⟨hinv, hsame⟩
  have hun : enforceView cfg m p.len p.iter req = enforce cfg m plain req :=
    view_eq_plain cfg m p.len p.iter plain req htot hkind hcls (fun x hx => (hsame x).mp hx)
      (fun _ x hx _ => (hsame x).mpr hx)
  unfold fastEnforce
  split
  · rw [hun]
  · split
    · rw [hun]
    · rename_i keys hk
      simp only [clearFilter_applyFilter p hinv.nofilter]
      congr 1
      -- the filtered container iterates the selected bucket and reports the size of the whole policy
      exact view_eq_plain cfg m p.len (p.bucket keys) plain req htot hkind hcls
        (fun x => selected_bucket_sub_policy p plain keys x hinv hsame)
        (fun har x => matching_rule_in_selected_bucket cfg m p plain req keys x hinv hsame
          (keysOf_length _ _ _ hk) (hkeys har keys hk))

/-! ## The matchers of the three model shapes imply equality on their admissible key positions -/

theorem keysOf_eq_of_fields (order : List Nat) (a b : List String)
    (h : ∀ i ∈ order, i < a.length ∧ i < b.length ∧ a[i]?.getD "" = b[i]?.getD "") :
    keysOf order a = keysOf order b := by
  induction order with
  | nil => rfl
  | cons x xs ih =>
    obtain ⟨ha, hb, e⟩ := h x (by simp)
    simp only [List.getElem?_eq_getElem ha, List.getElem?_eq_getElem hb, Option.getD_some] at e
    simp only [keysOf, List.getElem?_eq_getElem ha, List.getElem?_eq_getElem hb, e,
      ih (fun i hi => h i (by simp [hi]))]

/-- admissible key positions: ACL compares all three fields by equality, the RBAC shapes compare the
    object and the action (the subject goes through `g`) -/
def admissible : Shape → List Nat → Prop
  | .acl, order => order ≠ [] ∧ ∀ i ∈ order, i < 3
  | _, order => order ≠ [] ∧ ∀ i ∈ order, i = 1 ∨ i = 2

theorem matcher_bool (sh : Shape) (g : List Rule) (req p : List String) : ∃ b, sh.matcher g req p = .bool b := by
  cases sh <;> exact ⟨_, rfl⟩

theorem matcher_fields (sh : Shape) (g : List Rule) (order : List Nat) (req p : List String)
    (hadm : admissible sh order) (hm : sh.matcher g req p ≠ .bool false) :
    ∀ i ∈ order, i < 3 ∧ req[i]?.getD "" = p[i]?.getD "" := by
  intro i hi
  cases sh with
  | acl =>
    simp only [Shape.matcher, ne_eq, MVal.bool.injEq, Bool.not_eq_false, Bool.and_eq_true, beq_iff_eq] at hm
    have := hadm.2 i hi
    rcases (by omega : i = 0 ∨ i = 1 ∨ i = 2) with rfl | rfl | rfl
    · exact ⟨this, hm.1.1⟩
    · exact ⟨this, hm.1.2⟩
    · exact ⟨this, hm.2⟩
  | rbac | rbacDeny =>
    simp only [Shape.matcher, ne_eq, MVal.bool.injEq, Bool.not_eq_false, Bool.and_eq_true, beq_iff_eq] at hm
    rcases hadm.2 i hi with rfl | rfl
    · exact ⟨by omega, hm.1.2⟩
    · exact ⟨by omega, hm.2⟩

theorem keysImplied_shape (sh : Shape) (g : List Rule) (order : List Nat) (req keys : List String)
    (plain : List Rule) (hadm : admissible sh order) (hreq : req.length = 3)
    (hsized : ∀ p ∈ plain, p.length = sh.cfg.pArity) (hk : keysOf order req = some keys) :
    KeysImplied sh.cfg (sh.matcher g) order req keys plain := by
  intro p hp hn
  have hm : sh.matcher g req p ≠ .bool false := fun hf => by
    rw [outcomeD, C01.ruleOutcome_bool _ _ _ _ _ (hsized p hp) hf] at hn; cases hn
  have hlen : 3 ≤ p.length := by rw [hsized p hp]; cases sh <;> decide
  rw [← hk]
  exact keysOf_eq_of_fields order p req fun i hi =>
    have ⟨h3, e⟩ := matcher_fields sh g order req p hadm hm i hi
    ⟨by omega, by omega, e.symm⟩

theorem classifiable_shape (sh : Shape) (g : List Rule) (req : List String) (plain : List Rule)
    (hsized : ∀ p ∈ plain, p.length = sh.cfg.pArity) :
    Classifiable sh.cfg (sh.matcher g) req plain := by
  intro p hp
  obtain ⟨b, hb⟩ := matcher_bool sh g req p
  exact ⟨_, C01.ruleOutcome_bool _ _ _ _ _ (hsized p hp) hb⟩

theorem shape_kind_ne_priority (sh : Shape) : sh.cfg.kind ≠ .priority := by
  cases sh <;> simp [Shape.cfg]

/-- `fast_eq_plain` for the three model shapes: every admissible key order, every role graph, every
    well-sized policy held in common, *every* request (any arity): same decision or same exception -/
theorem fast_eq_plain_shape (sh : Shape) (g : List Rule) (p : FastPolicy order) (plain : List Rule)
    (req : List String) (hadm : admissible sh order) (hinv : Inv p) (hsame : ∀ x, x ∈ p.iter ↔ x ∈ plain)
    (hsized : ∀ r ∈ plain, r.length = sh.cfg.pArity) :
    fastEnforce sh.cfg (sh.matcher g) p req = (p, enforce sh.cfg (sh.matcher g) plain req) := by
  apply fast_eq_plain _ _ _ _ _ hinv hsame (shape_kind_ne_priority sh) (classifiable_shape sh g req plain hsized)
  intro har keys hk
  exact keysImplied_shape sh g order req keys plain hadm (by rw [← har]; cases sh <;> rfl) hsized hk

/-! ## The unrepaired code: what it violates (F14 witnesses) and what holds of it -/

/-- `f` on the container holding `rules`; `dflt` stands for "building it raised", which happens in none of the
    statements below: each right-hand side differs from its `dflt` -/
def onList (order : List Nat) (rules : List Rule) {α : Type} (f : FastPolicy order → α) (dflt : α) : α :=
  match FastPolicy.ofList order rules with
  | .ok p => f p
  | .error _ => dflt

/-- F14e: non-empty policy, empty bucket, all-empty request — the unrepaired `FastEnforcer` allows,
    `Enforcer` denies -/
theorem empty_bucket_witness :
    onList [2, 1] [["alice", "data1", "read"]]
      (fun p => fastEnforceUnrepaired Shape.acl.cfg (Shape.acl.matcher []) p ["", "", ""]) (.error .keyError) = .ok true ∧
    enforce Shape.acl.cfg (Shape.acl.matcher []) [["alice", "data1", "read"]] ["", "", ""] = .ok false := by
  decide

theorem enforceView_zero_nil_of_not_truthy {ρ : Type} (cfg : Cfg) (m : List ρ → List String → MVal) (n : Nat)
    (req : List ρ) (hev : cfg.hasEval = false) (ht : (m req (List.replicate cfg.pArity "")).truthy = false) :
    enforceView cfg m 0 [] req = enforceView cfg m n [] req := by
  unfold enforceView enforceExView
  by_cases hen : cfg.enabled = true
  · by_cases har : cfg.rArity = req.length
    · cases n with
      | zero => rfl
      | succ n =>
        simp [hen, har, hev, ht, loop, C01.effectToBool_final]
        cases cfg.kind <;> simp [final, EffSet.add]
    · simp [hen, har]
  · simp [hen]

/-- the unrepaired decision path (F14e: `len` = size of the selected bucket) agrees with `Enforcer` under the
    side condition: the bucket is non-empty, or the policy is empty, or the matcher is not truthy on the all-empty
    rule (and has no `eval`); `empty_bucket_witness` is a case outside it -/
theorem fast_eq_plain_partial (cfg : Cfg) (m : List String → List String → MVal) (p : FastPolicy order)
    (plain : List Rule) (req keys : List String)
    (hinv : Inv p) (hsame : ∀ x, x ∈ p.iter ↔ x ∈ plain)
    (hkind : cfg.kind ≠ .priority)
    (hcls : Classifiable cfg m req plain)
    (hk : keysOf order req = some keys)
    (hkeys : cfg.rArity = req.length → KeysImplied cfg m order req keys plain)
    (hside : p.bucket keys ≠ [] ∨ plain = [] ∨
      (cfg.hasEval = false ∧ (m req (List.replicate cfg.pArity "")).truthy = false)) :
    fastEnforceUnrepaired cfg m p req =
      (match enforce cfg m plain req with | .ok b => .ok b | .error e => .error (.enf e)) := by
  have hsub := fun x => selected_bucket_sub_policy p plain keys x hinv hsame
  have hmatch := fun har x => matching_rule_in_selected_bucket cfg m p plain req keys x hinv hsame
    (keysOf_length _ _ _ hk) (hkeys har)
  have key : enforceView cfg m (p.bucket keys).length (p.bucket keys) req = enforce cfg m plain req := by
    by_cases hb : p.bucket keys = []
    · by_cases hp : plain = []
      · exact view_eq_plain cfg m _ _ plain req (by simp [hb, hp]) hkind hcls hsub hmatch
      · -- empty bucket of a non-empty policy: the unrepaired `len` is 0, the true one is not
        obtain ⟨hev, ht⟩ := hside.resolve_left (· hb) |>.resolve_left hp
        rw [hb, List.length_nil, enforceView_zero_nil_of_not_truthy cfg m plain.length req hev ht]
        exact view_eq_plain cfg m plain.length [] plain req (by simp [List.length_eq_zero_iff]) hkind hcls (by simp)
          (hb ▸ hmatch)
    · obtain ⟨x, hx⟩ := List.exists_mem_of_ne_nil _ hb
      have hp := List.ne_nil_of_mem (hsub x hx)
      exact view_eq_plain cfg m _ _ plain req (by simp [hb, hp]) hkind hcls hsub hmatch
  have hview : (p.applyFilter keys).iter = p.bucket keys := rfl
  simp only [fastEnforceUnrepaired, hk, FastPolicy.lenUnrepaired, hview, key]
  cases enforce cfg m plain req <;> rfl

/-- F14d: with as many keys as fields the unrepaired membership test denies a stored rule -/
theorem contains_unrepaired_witness :
    onList [0, 1, 2] [["alice", "data1", "read"]]
      (fun p => (p.containsUnrepaired ["alice", "data1", "read"], p.contains ["alice", "data1", "read"]))
      (.error .keyError, false) = (.ok false, true) := by
  decide +kernel

/-- F14c: the unrepaired unfiltered iteration with one key raises, with three keys it yields the
    characters of the last key instead of the rule -/
theorem iteration_unrepaired_witness :
    onList [1] [["alice", "data1", "read"]] (fun p => flattenUnrepaired _ p.cache) (.ok []) = .error .attributeError ∧
    onList [0, 1, 2] [["alice", "data1", "read"]] (fun p => flattenUnrepaired _ p.cache) (.ok []) = .ok [["r", "e", "a", "d"]] ∧
    onList [0, 1, 2] [["alice", "data1", "read"]] (fun p => p.iter) [] = [["alice", "data1", "read"]] := by
  decide +kernel

/-- F14g: on an ill-sized request the unrepaired `enforce` raises `IndexError`; `fastEnforce` reports "invalid
    request size" like `Enforcer` -/
theorem ill_sized_request_witness :
    fastEnforceUnrepaired Shape.acl.cfg (Shape.acl.matcher []) (FastPolicy.new [2, 1]) ["alice", "data1"] = .error .indexError ∧
    (fastEnforce Shape.acl.cfg (Shape.acl.matcher []) (FastPolicy.new [2, 1]) ["alice", "data1"]).2 = .error .invalidRequestSize ∧
    enforce Shape.acl.cfg (Shape.acl.matcher []) [] ["alice", "data1"] = .error .invalidRequestSize := by
  decide

/-- the hypothesis "keys on fields the matcher compares by equality" is needed: keyed on the subject,
    the RBAC model misses the rule granted through a role (`fastEnforce`, not the unrepaired one) -/
theorem inadmissible_order_witness :
    onList [0, 1] [["admin", "data1", "read"]]
      (fun p => (fastEnforce Shape.rbac.cfg (Shape.rbac.matcher [["alice", "admin"]]) p ["alice", "data1", "read"]).2)
      (.error .effectToBool) = .ok false ∧
    enforce Shape.rbac.cfg (Shape.rbac.matcher [["alice", "admin"]]) [["admin", "data1", "read"]] ["alice", "data1", "read"] = .ok true := by
  decide +kernel

/-! The next four definitions are written down from the source as it was before the fix commits F14a/F14b: nothing
ties them to /repo as it is, and the two theorems about them read off these definitions. -/

/-- the `policy` attribute of the assertion in the unrepaired code: the indexed container or — after
    any filtered removal, which rebinds it (`self[sec][ptype].policy = tmp`) — a plain list -/
inductive PolicyObj (order : List Nat)
  | fast (p : FastPolicy order)
  | list (l : List Rule)

def PolicyObj.rules : PolicyObj order → List Rule
  | .fast p => p.iter
  | .list l => l

/-- unrepaired `remove_filtered_policy` on a `FastModel` (the generic code) -/
def removeFilteredUnrepaired (o : PolicyObj order) (i : Nat) (vs : List String) : Except PErr (PolicyObj order × Bool) :=
  match Plain.removeFiltered o.rules i vs with
  | .error e => .error e
  | .ok (keep, res) => .ok (.list keep, res)

/-- unrepaired `FastEnforcer.enforce`: `fast_policy_filter(policy, …)` calls `policy.apply_filter` /
    `policy.clear_filter`, which a list does not have -/
def enforceObjUnrepaired (cfg : Cfg) (m : List String → List String → MVal) : PolicyObj order → List String → Except PErr Bool
  | .fast p, req => fastEnforceUnrepaired cfg m p req
  | .list _, _ => .error .attributeError

/-- unrepaired `update_policy` on a `FastModel`: `ast.policy.index(old_rule)` does not exist -/
def updateUnrepaired (o : PolicyObj order) (old new : Rule) : Except PErr (PolicyObj order × Bool) :=
  match o with
  | .fast p => if p.contains old then .error .attributeError else .ok (.fast p, false)
  | .list l => let (l', b) := Plain.updatePolicy l old new; .ok (.list l', b)

/-- F14a: after *any* filtered removal that returns, *every* `enforce` raises `AttributeError` -/
theorem filtered_removal_breaks_enforce_unrepaired (cfg : Cfg) (m : List String → List String → MVal)
    (o o' : PolicyObj order) (i : Nat) (vs : List String) (b : Bool) (req : List String)
    (h : removeFilteredUnrepaired o i vs = .ok (o', b)) :
    enforceObjUnrepaired cfg m o' req = .error .attributeError := by
  unfold removeFilteredUnrepaired at h
  split at h
  · cases h
  · cases h; rfl

/-- F14b: updating *any* stored rule raises `AttributeError` -/
theorem update_raises_unrepaired (p : FastPolicy order) (old new : Rule) (h : p.contains old = true) :
    updateUnrepaired (.fast p) old new = .error .attributeError := by
  simp [updateUnrepaired, h]

structure Sim (sh : Shape) (fs : FastState order) (ps : PlainState) : Prop where
  inv : Inv fs.p
  same : ∀ x, x ∈ fs.p.iter ↔ x ∈ ps.p
  nodup : ps.p.Nodup
  sized : ∀ r ∈ ps.p, r.length = sh.cfg.pArity
  g : fs.g = ps.g

/-- results are compared like the harness compares them: rule lists as sets -/
def Res.equiv : Res → Res → Prop
  | .bool a, .bool b => a = b
  | .rules a, .rules b => ∀ x, x ∈ a ↔ x ∈ b
  | .err a, .err b => a = b
  | .unit, .unit => True
  | _, _ => False

theorem Res.equiv.refl (r : Res) : Res.equiv r r := by
  cases r <;> simp [Res.equiv]

theorem admissible_lt (sh : Shape) (hadm : admissible sh order) : order ≠ [] ∧ ∀ i ∈ order, i < sh.cfg.pArity := by
  cases sh with
  | acl => exact hadm
  | rbac | rbacDeny => exact ⟨hadm.1, fun i hi => by rcases hadm.2 i hi with rfl | rfl <;> simp [Shape.cfg]⟩

theorem any_ge_false (n : Nat) (r : Rule) (hord : ∀ i ∈ order, i < n) (hr : r.length = n) :
    order.any (fun i => i ≥ r.length) = false := by
  rw [List.any_eq_false]; intro i hi; have := hord i hi; simp; omega

/-! ### the container protocol against the list code (`add`, `remove`, their loops, re-indexing) -/

/-- `add_policy` on both sides -/
theorem add_sim (p : FastPolicy order) (l : List Rule) (r : Rule) (hne : order ≠ [])
    (hr : order.any (fun i => i ≥ r.length) = false) (h : Holds p l) :
    ∃ p', addPolicy p r = .ok (p', (Plain.addPolicy l r).2) ∧ Holds p' (Plain.addPolicy l r).1 := by
  simp only [addPolicy, Plain.addPolicy, hasPolicy, Plain.hasPolicy, h.contains]
  by_cases hc : l.contains r = true
  · simp only [hc, ↓reduceIte]; exact ⟨p, rfl, h⟩
  · obtain ⟨p', ha, h'⟩ := h.append r hne hr
    simp only [hc, Bool.false_eq_true, ↓reduceIte, ha]; exact ⟨p', rfl, h'⟩

/-- `remove_policy` on both sides -/
theorem remove_sim (p : FastPolicy order) (l : List Rule) (r : Rule) (hne : order ≠ []) (h : Holds p l)
    (hnd : l.Nodup) :
    ∃ p', removePolicy p r = .ok (p', (Plain.removePolicy l r).2) ∧ Holds p' (Plain.removePolicy l r).1 := by
  simp only [removePolicy, Plain.removePolicy, hasPolicy, Plain.hasPolicy, h.contains]
  by_cases hc : l.contains r = true
  · obtain ⟨p', ha, h'⟩ := h.remove r hne (by simpa using hc)
    rw [← hnd.erase_eq_filter] at h'
    simp only [hc, Bool.not_true, Bool.false_eq_true, ↓reduceIte, ha, h'.contains]; exact ⟨p', rfl, h'⟩
  · simp only [hc, Bool.not_false, ↓reduceIte]; exact ⟨p, rfl, h⟩

/-- the second loop of `add_policies` -/
theorem addEach_sim (rules : List Rule) (p : FastPolicy order) (l : List Rule) (hne : order ≠ [])
    (hrs : ∀ r ∈ rules, order.any (fun i => i ≥ r.length) = false) (h : Holds p l) :
    ∃ p', addEach p rules = (p', none) ∧ Holds p' (rules.foldl (fun q r => (Plain.addPolicy q r).1) l) := by
  induction rules generalizing p l with
  | nil => exact ⟨p, rfl, h⟩
  | cons r rs ih =>
    obtain ⟨p1, h1, hh1⟩ := add_sim p l r hne (hrs r (by simp)) h
    obtain ⟨p', h2, hh2⟩ := ih p1 _ (fun x hx => hrs x (by simp [hx])) hh1
    exact ⟨p', by simp only [addEach, h1, h2], hh2⟩

/-- re-indexing a list (`FastModel._on_list`, `load_policy`) -/
theorem appendAll_spec (rules : List Rule) (p : FastPolicy order) (l : List Rule) (hne : order ≠ [])
    (hrs : ∀ r ∈ rules, order.any (fun i => i ≥ r.length) = false) (h : Holds p l) :
    ∃ p', p.appendAll rules = .ok p' ∧ Holds p' (l ++ rules) := by
  induction rules generalizing p l with
  | nil => exact ⟨p, rfl, by simpa using h⟩
  | cons r rs ih =>
    obtain ⟨p1, h1, hh1⟩ := h.append r hne (hrs r (by simp))
    obtain ⟨p', h2, hh2⟩ := ih p1 _ (fun x hx => hrs x (by simp [hx])) hh1
    exact ⟨p', by simp only [FastPolicy.appendAll, h1, h2], by simpa using hh2⟩

theorem ofList_spec (l : List Rule) (hne : order ≠ [])
    (hl : ∀ r ∈ l, order.any (fun i => i ≥ r.length) = false) :
    ∃ p', FastPolicy.ofList order l = .ok p' ∧ Holds p' l := by
  simpa [FastPolicy.ofList] using appendAll_spec l _ [] hne hl (holds_new order)

/-- the second loop of `remove_policies` -/
theorem removeEach_sim (rules : List Rule) (p : FastPolicy order) (l : List Rule) (hne : order ≠ [])
    (h : Holds p l) (hnd : l.Nodup) :
    ∃ p', removeEach p rules = (p', none) ∧
      Holds p' (rules.foldl (fun q r => if q.contains r then q.erase r else q) l) := by
  induction rules generalizing p l with
  | nil => exact ⟨p, rfl, h⟩
  | cons r rs ih =>
    simp only [List.foldl_cons, removeEach, h.contains]
    by_cases hc : l.contains r = true
    · obtain ⟨p1, ha, h1⟩ := h.remove r hne (by simpa using hc)
      rw [← hnd.erase_eq_filter] at h1
      simp only [hc, ↓reduceIte, ha]
      exact ih p1 _ h1 (hnd.erase r)
    · simp only [hc, Bool.false_eq_true, ↓reduceIte]
      exact ih p l h hnd

/-! ### the list code

`Plain.*` is the code of `Model/Policy` for an assertion without a priority column (`Plain.addPolicy` and
`Plain.removePolicy` are `Policy.add none` and `Policy.remove` by unfolding), so what it computes on a
duplicate-free list is what `Props/C06` says.  It keeps `Wf`: no duplicate lines, every rule of the policy's arity. -/

structure Wf (n : Nat) (l : List Rule) : Prop where
  nodup : l.Nodup
  sized : ∀ r ∈ l, r.length = n

theorem Wf.sublist {n : Nat} {l l' : List Rule} (h : Wf n l) (hs : l'.Sublist l) : Wf n l' :=
  ⟨hs.nodup h.nodup, fun r hr => h.sized r (hs.subset hr)⟩

theorem wf_addPolicy {n : Nat} {l : List Rule} {r : Rule} (h : Wf n l) (hr : r.length = n) :
    Wf n (Plain.addPolicy l r).1 :=
  ⟨Policy.C06.add_nodup none l r h.nodup, fun x hx =>
    ((Policy.C06.add_mem none l r x).mp hx).elim (h.sized x) (· ▸ hr)⟩

theorem filterMatch_eq (r : Rule) (i : Nat) (vs : List String) :
    Plain.filterMatch r i vs = (Policy.matchesFrom r i vs).mapError fun _ => PErr.indexError := by
  induction vs generalizing i with
  | nil => rfl
  | cons v vs ih =>
    simp only [Plain.filterMatch, Policy.matchesFrom, ih]
    split
    · rfl
    · cases r[i]? with
      | none => rfl
      | some x => simp only []; split <;> rfl

theorem splitFiltered_ok {n : Nat} (i : Nat) (vs : List String) (hop : i + vs.length ≤ n) (l : List Rule)
    (h : ∀ r ∈ l, r.length = n) :
    Plain.splitFiltered i vs l = .ok (l.filter (fun r => !Policy.Spec.matchesFilter i vs r),
      l.filter (Policy.Spec.matchesFilter i vs)) := by
  induction l with
  | nil => rfl
  | cons r rs ih =>
    simp only [Plain.splitFiltered, filterMatch_eq, Policy.C06.matchesFrom_spec r i vs (h r (by simp) ▸ hop),
      ih (fun x hx => h x (by simp [hx]))]
    cases hf : Policy.Spec.matchesFilter i vs r <;> simp [Except.mapError, hf]

theorem updatePolicy_eq_spec (l : List Rule) (o n : Rule) (hd : l.Nodup) :
    Plain.updatePolicy l o n = Policy.Spec.update l o n := by
  have h : Policy.update none l o n = .ok (Plain.updatePolicy l o n) := by
    simp only [Policy.update, Plain.updatePolicy, apply_ite Except.ok]
  exact Except.ok.inj (h.symm.trans (Policy.C06.update_refines l o n hd))

theorem updatePolicies_eq_spec (l olds news : List Rule) (hd : l.Nodup) :
    Plain.updatePolicies l olds news = Policy.Spec.updateMany l olds news := by
  have h : Policy.updateMany none l olds news = .ok (Plain.updatePolicies l olds news) := by
    simp only [Policy.updateMany, Plain.updatePolicies, apply_ite Except.ok, List.zip_map_left, List.foldl_map,
      List.not_all_eq_any_not]
    rfl
  exact Except.ok.inj (h.symm.trans (Policy.C06.updateMany_refines l olds news hd))

/-- `update_policy` on two duplicate-free lists holding the same rules: same answer, and the results again hold the
    same rules and are well formed -/
theorem updatePolicy_spec {n : Nat} (l1 l2 : List Rule) (old new : Rule) (hp : l1.Perm l2) (h2 : Wf n l2)
    (hn : new.length = n) :
    (Plain.updatePolicy l1 old new).2 = (Plain.updatePolicy l2 old new).2 ∧
    (Plain.updatePolicy l1 old new).1.Perm (Plain.updatePolicy l2 old new).1 ∧
    Wf n (Plain.updatePolicy l2 old new).1 := by
  have hnd := Policy.C06.spec_update_nodup l2 old new h2.nodup
  rw [updatePolicy_eq_spec l1 old new (hp.nodup_iff.mpr h2.nodup), updatePolicy_eq_spec l2 old new h2.nodup]
  unfold Policy.Spec.update at hnd ⊢
  simp only [hp.mem_iff]
  split <;> rename_i hc
  · rw [if_pos hc] at hnd
    refine ⟨rfl, hp.map _, hnd, fun x hx => ?_⟩
    obtain ⟨y, hy, rfl⟩ := List.mem_map.mp hx
    split
    · exact hn
    · exact h2.sized y hy
  · exact ⟨rfl, hp, h2⟩

/-- the same for `update_policies`, whose own last test is that the result is duplicate-free -/
theorem updatePolicies_perm {n : Nat} (l1 l2 olds news : List Rule) (hp : l1.Perm l2) (h2 : Wf n l2)
    (hn : ∀ r ∈ news, r.length = n) :
    (Plain.updatePolicies l1 olds news).2 = (Plain.updatePolicies l2 olds news).2 ∧
    (Plain.updatePolicies l1 olds news).1.Perm (Plain.updatePolicies l2 olds news).1 ∧
    Wf n (Plain.updatePolicies l2 olds news).1 := by
  rw [updatePolicies_eq_spec l1 olds news (hp.nodup_iff.mpr h2.nodup), updatePolicies_eq_spec l2 olds news h2.nodup]
  unfold Policy.Spec.updateMany
  have hp' : (Policy.Spec.replaceAll l1 olds news).Perm (Policy.Spec.replaceAll l2 olds news) := hp.map _
  simp only [hp.mem_iff, hp'.nodup_iff]
  split
  · rename_i hc
    refine ⟨rfl, hp', hc.2.2.2, fun x hx => ?_⟩
    obtain ⟨y, hy, rfl⟩ := List.mem_map.mp hx
    split
    · rename_i hf; exact hn _ (List.of_mem_zip (List.mem_of_find?_eq_some hf)).2
    · exact h2.sized y hy
  · exact ⟨rfl, hp, h2⟩

/-- the substitution a batch of (old, new) pairs performs, later pairs winning -/
def substOf : List (Rule × Rule) → (Rule → Rule) → Rule → Rule
  | [], f => f
  | (o, n) :: rest, f => substOf rest (fun x => if x = o then n else f x)

/-- a batch of `policy[policy.index(o)] = n` on a duplicate-free list is one substitution (an old rule
    that is absent changes nothing, so `ho` is not used). Not the lemma `updatePolicies_eq_spec` rests on:
    that is `Policy.C06.foldl_set_eq_map` (Props/C06u), about `Spec.replaceAll`. -/
theorem foldl_set_eq_map (l : List Rule) (pairs : List (Rule × Rule)) (f : Rule → Rule) (hnd : l.Nodup)
    (ho : ∀ pr ∈ pairs, pr.1 ∈ l) :
    (pairs.map (Prod.map l.idxOf id)).foldl (fun p (ix : Nat × Rule) => p.set ix.1 ix.2) (l.map f) =
      l.map (substOf pairs f) := by
  clear ho
  induction pairs generalizing f with
  | nil => rfl
  | cons pr rest ih =>
    simp only [List.map_cons, List.foldl_cons, Prod.map_fst, Prod.map_snd, id_eq, substOf]
    rw [set_idxOf_map l f pr.1 pr.2 hnd]
    exact ih _

/-- the loop of `get_values_for_field_in_policy` over rules that all have the field -/
theorem valuesLoop_spec (i : Nat) (l : List Rule) (acc : List String) (h : ∀ r ∈ l, i < r.length) :
    ∃ vs, Plain.valuesLoop i l acc = .ok vs ∧ ∀ x, x ∈ vs ↔ x ∈ acc ∨ ∃ r ∈ l, r[i]? = some x := by
  induction l generalizing acc with
  | nil => exact ⟨acc, rfl, by simp⟩
  | cons r rs ih =>
    have hi : i < r.length := h r (by simp)
    obtain ⟨vs, h1, h2⟩ := ih (if acc.contains r[i] then acc else acc ++ [r[i]]) (fun x hx => h x (by simp [hx]))
    refine ⟨vs, by simp only [Plain.valuesLoop, List.getElem?_eq_getElem hi, h1], fun x => ?_⟩
    rw [h2]
    simp only [List.mem_cons, exists_eq_or_imp, List.getElem?_eq_getElem hi, Option.some.injEq]
    split
    · rename_i hc
      constructor
      · rintro (h | h)
        · exact .inl h
        · exact .inr (.inr h)
      · rintro (h | rfl | h)
        · exact .inl h
        · exact .inl (by simpa using hc)
        · exact .inr h
    · simp only [List.mem_append, List.mem_singleton, or_assoc, eq_comm]

/-- the calls of the main stream: rules of the policy's arity, filters inside the rule, loads without
    duplicate lines -/
def opAdmissible (sh : Shape) : Op → Prop
  | .add r => r.length = sh.cfg.pArity
  | .addMany rs => ∀ r ∈ rs, r.length = sh.cfg.pArity
  | .removeFiltered i vs => i + vs.length ≤ sh.cfg.pArity
  | .getFiltered i vs => i + vs.length ≤ sh.cfg.pArity
  | .removeFilteredEffects i vs => i + vs.length ≤ sh.cfg.pArity
  | .values i => i < sh.cfg.pArity
  | .update _ n => n.length = sh.cfg.pArity
  | .updateMany _ ns => ∀ r ∈ ns, r.length = sh.cfg.pArity
  | .load ps _ => ps.Nodup ∧ ∀ r ∈ ps, r.length = sh.cfg.pArity
  | _ => True

theorem Sim.holds {sh : Shape} {fs : FastState order} {ps : PlainState} (h : Sim sh fs ps) : Holds fs.p ps.p :=
  ⟨h.inv, h.same⟩

theorem Sim.wf {sh : Shape} {fs : FastState order} {ps : PlainState} (h : Sim sh fs ps) : Wf sh.cfg.pArity ps.p :=
  ⟨h.nodup, h.sized⟩

theorem Sim.perm {sh : Shape} {fs : FastState order} {ps : PlainState} (h : Sim sh fs ps) : fs.p.iter.Perm ps.p :=
  (List.perm_ext_iff_of_nodup (iter_nodup _ h.inv) h.nodup).mpr h.same

/-- the shape every mutating call has: the new container holds the new list, which is well formed -/
theorem Sim.of_holds {sh : Shape} {p : FastPolicy order} {l g g' : List Rule} (h : Holds p l)
    (hw : Wf sh.cfg.pArity l) (hg : g = g') : Sim sh { p := p, g := g } { p := l, g := g' } :=
  ⟨h.inv, h.same, hw.nodup, hw.sized, hg⟩

/-- [F14a, F14b] re-indexing what the list code returned: the fast side computed on its own iteration
    (`l1`), the plain side on its list (`l2`) -/
theorem sim_reindex {sh : Shape} (hadm : admissible sh order) (l1 l2 g : List Rule) (hp : l1.Perm l2)
    (hw : Wf sh.cfg.pArity l2) :
    ∃ p', FastPolicy.ofList order l1 = .ok p' ∧ Sim sh { p := p', g := g } { p := l2, g := g } := by
  obtain ⟨hne, hord⟩ := admissible_lt sh hadm
  obtain ⟨p', h1, hh⟩ := ofList_spec l1 hne fun r hr => any_ge_false _ r hord (hw.sized r (hp.subset hr))
  exact ⟨p', h1, .of_holds (hh.congr fun x => hp.mem_iff) hw rfl⟩

theorem sim_init (sh : Shape) (order : List Nat) : Sim sh ({} : FastState order) ({} : PlainState) :=
  .of_holds (holds_new order) ⟨List.nodup_nil, by simp⟩ rfl

theorem Holds.hasPolicy {p : FastPolicy order} {l : List Rule} (h : Holds p l) :
    hasPolicy p = Plain.hasPolicy l :=
  funext h.contains

theorem step_sim (sh : Shape) (fs : FastState order) (ps : PlainState) (op : Op)
    (hadm : admissible sh order) (hsim : Sim sh fs ps) (hop : opAdmissible sh op) :
    Sim sh (stepFast sh fs op).1 (stepPlain sh ps op).1 ∧
      Res.equiv (stepFast sh fs op).2 (stepPlain sh ps op).2 := by
  obtain ⟨hne, hord⟩ := admissible_lt sh hadm
  have hh := hsim.holds
  have hw := hsim.wf
  have hp := hsim.perm
  have hg := hsim.g
  have hw1 : ∀ r ∈ fs.p.iter, r.length = sh.cfg.pArity := fun r hr => hw.sized r (hp.subset hr)
  cases op with
  | add r =>
    obtain ⟨p', h1, h'⟩ := add_sim fs.p ps.p r hne (any_ge_false _ r hord hop) hh
    simp only [stepFast, stepPlain, h1]
    exact ⟨.of_holds h' (wf_addPolicy hw hop) hg, rfl⟩
  | remove r =>
    obtain ⟨p', h1, h'⟩ := remove_sim fs.p ps.p r hne hh hw.nodup
    simp only [stepFast, stepPlain, h1]
    exact ⟨.of_holds h' (hw.sublist (Policy.C06.remove_sublist _ _)) hg, rfl⟩
  | addMany rs =>
    simp only [stepFast, stepPlain, addPolicies, Plain.addPolicies, hh.hasPolicy]
    by_cases hany : rs.any (Plain.hasPolicy ps.p) = true
    · simp only [hany, ↓reduceIte]
      exact ⟨hsim, rfl⟩
    · obtain ⟨p', h1, h'⟩ := addEach_sim rs fs.p ps.p hne (fun r hr => any_ge_false _ r hord (hop r hr)) hh
      simp only [hany, Bool.false_eq_true, ↓reduceIte, h1]
      exact ⟨.of_holds h' (List.foldlRecOn rs _ hw fun l hl r hr => wf_addPolicy hl (hop r hr)) hg, rfl⟩
  | removeMany rs =>
    simp only [stepFast, stepPlain, removePolicies, Plain.removePolicies, hh.hasPolicy]
    by_cases hany : rs.any (fun r => !Plain.hasPolicy ps.p r) = true
    · simp only [hany, ↓reduceIte]
      exact ⟨hsim, rfl⟩
    · obtain ⟨p', h1, h'⟩ := removeEach_sim rs fs.p ps.p hne hh hw.nodup
      simp only [hany, Bool.false_eq_true, ↓reduceIte, h1]
      exact ⟨.of_holds h' (hw.sublist (foldl_erase_sublist rs ps.p)) hg, rfl⟩
  | removeFiltered i vs =>
    have hf := splitFiltered_ok i vs hop
    obtain ⟨p', h1, hs⟩ := sim_reindex hadm _ _ ps.g (hp.filter fun r => !Policy.Spec.matchesFilter i vs r)
      (hw.sublist List.filter_sublist)
    simp only [stepFast, stepPlain, removeFiltered, Plain.removeFiltered, hf _ hw1, hf _ hw.sized, h1, hg,
      (hp.filter _).isEmpty_eq]
    exact ⟨hs, .refl _⟩
  | removeFilteredEffects i vs =>
    have hf := splitFiltered_ok i vs hop
    obtain ⟨p', h1, hs⟩ := sim_reindex hadm _ _ ps.g (hp.filter fun r => !Policy.Spec.matchesFilter i vs r)
      (hw.sublist List.filter_sublist)
    simp only [stepFast, stepPlain, removeFilteredEffects, Plain.removeFilteredEffects, hf _ hw1, hf _ hw.sized, h1, hg]
    exact ⟨hs, fun x => (hp.filter _).mem_iff⟩
  | getFiltered i vs =>
    have hf := splitFiltered_ok i vs hop
    simp only [stepFast, stepPlain, getFiltered, Plain.getFiltered, hf _ hw1, hf _ hw.sized]
    exact ⟨hsim, fun x => (hp.filter _).mem_iff⟩
  | values i =>
    obtain ⟨v1, h1, m1⟩ := valuesLoop_spec i fs.p.iter [] fun r hr => hw1 r hr ▸ hop
    obtain ⟨v2, h2, m2⟩ := valuesLoop_spec i ps.p [] fun r hr => hw.sized r hr ▸ hop
    simp only [stepFast, stepPlain, valuesForField, Plain.valuesForField, h1, h2]
    refine ⟨hsim, fun x => ?_⟩
    simp only [List.mem_map, m1, m2, List.not_mem_nil, false_or, hh.same]
  | update o n =>
    obtain ⟨hb, hp', hw'⟩ := updatePolicy_spec fs.p.iter ps.p o n hp hw hop
    obtain ⟨p', h1, hs⟩ := sim_reindex hadm _ _ ps.g hp' hw'
    simp only [stepFast, stepPlain, updatePolicy, h1, hg, hb]
    exact ⟨hs, .refl _⟩
  | updateMany os ns =>
    obtain ⟨hb, hp', hw'⟩ := updatePolicies_perm fs.p.iter ps.p os ns hp hw hop
    obtain ⟨p', h1, hs⟩ := sim_reindex hadm _ _ ps.g hp' hw'
    simp only [stepFast, stepPlain, updatePolicies, h1, hg, hb]
    exact ⟨hs, .refl _⟩
  | clear => exact ⟨sim_init sh order, trivial⟩
  | load rs gs =>
    obtain ⟨p', h1, hs⟩ := sim_reindex hadm rs rs (if sh.hasG then gs else []) (List.Perm.refl _) ⟨hop.1, hop.2⟩
    simp only [stepFast, stepPlain, h1]
    exact ⟨hs, trivial⟩
  | has r =>
    simp only [stepFast, stepPlain, hh.hasPolicy]
    exact ⟨hsim, rfl⟩
  | get => exact ⟨hsim, hh.same⟩
  | enforce req =>
    have := fast_eq_plain_shape sh ps.g fs.p ps.p req hadm hh.inv hh.same hw.sized
    simp only [stepFast, stepPlain, hg, this]
    exact ⟨.of_holds hh hw rfl, .refl _⟩
  | addG r | removeG r =>
    simp only [stepFast, stepPlain, hg]
    split
    · exact ⟨hsim, rfl⟩
    · exact ⟨.of_holds hh hw rfl, rfl⟩

/-- a whole history: final state and the result of every call -/
def runFast (sh : Shape) : FastState order → List Op → FastState order × List Res
  | s, [] => (s, [])
  | s, op :: ops => ((runFast sh (stepFast sh s op).1 ops).1, (stepFast sh s op).2 :: (runFast sh (stepFast sh s op).1 ops).2)

def runPlain (sh : Shape) : PlainState → List Op → PlainState × List Res
  | s, [] => (s, [])
  | s, op :: ops => ((runPlain sh (stepPlain sh s op).1 ops).1, (stepPlain sh s op).2 :: (runPlain sh (stepPlain sh s op).1 ops).2)

def resultsEquiv : List Res → List Res → Prop
  | [], [] => True
  | a :: as, b :: bs => Res.equiv a b ∧ resultsEquiv as bs
  | _, _ => False

theorem run_sim (sh : Shape) (fs : FastState order) (ps : PlainState) (ops : List Op)
    (hadm : admissible sh order) (hsim : Sim sh fs ps) (hops : ∀ op ∈ ops, opAdmissible sh op) :
    Sim sh (runFast sh fs ops).1 (runPlain sh ps ops).1 ∧
      resultsEquiv (runFast sh fs ops).2 (runPlain sh ps ops).2 := by
  induction ops generalizing fs ps with
  | nil => exact ⟨hsim, trivial⟩
  | cons op ops ih =>
    obtain ⟨h1, h2⟩ := step_sim sh fs ps op hadm hsim (hops op (by simp))
    obtain ⟨h3, h4⟩ := ih _ _ h1 (fun o ho => hops o (by simp [ho]))
    exact ⟨h3, h2, h4⟩

/-- C19 over whole histories: for the ACL, RBAC and RBAC-with-deny models, every
    admissible cache-key order and every management history of admissible calls (single and batch
    add/remove, filtered removal, update, clear, load, queries, grouping changes, enforce — of any
    length, in any interleaving), started from the empty policy: every call returns the same result on
    `FastEnforcer` as on `Enforcer` (rule lists as sets, decisions and exceptions equal), and both end
    with the same set of rules. -/
theorem history_sim (sh : Shape) (order : List Nat) (ops : List Op)
    (hadm : admissible sh order) (hops : ∀ op ∈ ops, opAdmissible sh op) :
    Sim sh (runFast sh ({} : FastState order) ops).1 (runPlain sh {} ops).1 ∧
      resultsEquiv (runFast sh ({} : FastState order) ops).2 (runPlain sh {} ops).2 :=
  run_sim sh _ _ ops hadm (sim_init sh order) hops

/-- after any admissible history, every request (any arity, any values) gets the same answer -/
theorem decision_after_history (sh : Shape) (order : List Nat) (ops : List Op) (req : List String)
    (hadm : admissible sh order) (hops : ∀ op ∈ ops, opAdmissible sh op) :
    (stepFast sh (runFast sh ({} : FastState order) ops).1 (.enforce req)).2 =
      (stepPlain sh (runPlain sh {} ops).1 (.enforce req)).2 := by
  obtain ⟨⟨hinv, hsame, _, hsized, hg⟩, _⟩ := history_sim sh order ops hadm hops
  have := fast_eq_plain_shape sh (runPlain sh {} ops).1.g _ _ req hadm hinv hsame hsized
  simp only [stepFast, stepPlain, hg, this]

/-! ## Instances meeting the hypotheses of the theorems -/

def exOps : List COp :=
  [.append ["alice", "data1", "read"], .append ["bob", "data2", "write"], .append ["bob"],
   .remove ["alice", "data1", "read"], .append ["alice", "data2", "write"]]

/-- a history with a rejected (too short) rule, a removal and two rules sharing a bucket -/
example :
    ([2, 1] : List Nat) ≠ [] ∧
    runS [2, 1] [] exOps = [["bob", "data2", "write"], ["alice", "data2", "write"]] ∧
    keysOf [2, 1] ["alice", "data2", "write"] = some ["write", "data2"] ∧
    (runC (FastPolicy.new [2, 1]) exOps).bucket ["write", "data2"] = [["bob", "data2", "write"], ["alice", "data2", "write"]] ∧
    (runC (FastPolicy.new [2, 1]) exOps).bucket ["read", "data1"] = [] ∧
    (runC (FastPolicy.new [2, 1]) exOps).contains ["alice", "data1", "read"] = false := by
  decide +kernel

/-- the hypotheses of `fast_eq_plain_shape` after a history, RBAC keyed on (act, obj); the first decision is `true`
    through a role -/
example :
    let ops : List COp := [.append ["admin", "data1", "read"], .append ["bob", "data2", "write"]]
    let p := runC (FastPolicy.new [2, 1]) ops
    let plain := runS [2, 1] [] ops
    Inv p ∧ (∀ x, x ∈ p.iter ↔ x ∈ plain) ∧ admissible .rbac [2, 1] ∧
      (∀ r ∈ plain, r.length = Shape.rbac.cfg.pArity) ∧
      (fastEnforce Shape.rbac.cfg (Shape.rbac.matcher [["alice", "admin"]]) p ["alice", "data1", "read"]).2 = .ok true ∧
      (fastEnforce Shape.rbac.cfg (Shape.rbac.matcher [["alice", "admin"]]) p ["alice", "data2", "write"]).2 = .ok false := by
  intro ops p plain
  have h := container_is_set (order := [2, 1]) (by decide) ops
  exact ⟨h.1, h.2.2, by simp [admissible], by decide +kernel⟩

/-- two disjuncts of the side condition of `fast_eq_plain_partial`: a non-empty bucket; a matcher that is false on
    the all-empty rule -/
example :
    onList [2, 1] [["alice", "data1", "read"]] (fun p => p.bucket ["read", "data1"]) [] ≠ [] ∧
    ((Shape.acl.matcher []) ["alice", "data1", "read"] (List.replicate 3 "")).truthy = false := by
  decide

/-- `view_eq_plain` with an *empty* view of a non-empty policy (the case of F14e) -/
example :
    enforceView Shape.acl.cfg (Shape.acl.matcher []) 1 [] ["", "", ""] = .ok false ∧
    enforce Shape.acl.cfg (Shape.acl.matcher []) [["alice", "data1", "read"]] ["", "", ""] = .ok false := by
  decide

example : ∃ o' b, removeFilteredUnrepaired (.fast (FastPolicy.new [2, 1])) 0 ["alice"] = .ok (o', b) :=
  ⟨_, _, rfl⟩

def exHistory : List Op :=
  [.add ["alice", "data1", "read"], .addMany [["bob", "data2", "write"], ["alice", "data2", "read"]],
   .removeFiltered 1 ["data2", "read"], .update ["alice", "data1", "read"] ["alice", "data1", "write"],
   .enforce ["alice", "data1", "write"], .enforce ["", "", ""], .removeMany [["bob", "data2", "write"]],
   .updateMany [["alice", "data1", "write"]] [["carol", "data3", "read"]], .get]

example :
    admissible .acl [0, 1, 2] ∧ (∀ op ∈ exHistory, opAdmissible .acl op) ∧
    (runPlain .acl {} exHistory).2 =
      [.bool true, .bool true, .bool true, .bool true, .bool true, .bool false, .bool true, .bool true,
       .rules [["carol", "data3", "read"]]] := by
  refine ⟨by simp [admissible], ?_, by decide +kernel⟩
  intro op h
  simp only [exHistory, List.mem_cons, List.not_mem_nil, or_false] at h
  rcases h with rfl | rfl | rfl | rfl | rfl | rfl | rfl | rfl | rfl <;> simp [opAdmissible, Shape.cfg]

end Casbin.C19
