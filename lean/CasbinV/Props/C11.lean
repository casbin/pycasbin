import CasbinV.Props.C11o
/-!
# C11 — a failed policy reload leaves the enforcer exactly as it was

Subject: `Casbin.Enf.step cfg s (.loadPolicy k)` — the adapter raises after delivering `k` rules, or delivers a
grouping rule that is unusable for the model (too short for the role definition).  `load_policy` of
Model/Enforcer.lean is the reload of a model that orders nothing (`C11o.loadOrd_default`): the theorems about it are
those of Props/C11o at `OrdCfg := {}`.
-/
namespace Casbin.Enf.C04

/-- a failed `load_policy` (adapter failure, or a delivered grouping rule that is too short) keeps coherence: the
    rollback rebuilds the links from the old policy.  In C04's namespace because it is the reload case that
    `C04.coherent_step` leaves out: there `OpOK` asks for a `PolOK` store, which a reload that fails while linking has not. -/
theorem failed_load_coherent (cfg : Cfg) (s : St) (h : Coherent cfg s) (k : Option Nat) (e : EErr)
    (hfail : (step cfg s (.loadPolicy k)).2 = .error e) :
    (step cfg s (.loadPolicy k)).1.pol = s.pol ∧ Coherent cfg (step cfg s (.loadPolicy k)).1 := by
  have hf := C11o.failed_loadOrd_coherent cfg {} s h k (.enf e) (by rw [C11o.loadOrd_default, hfail]; rfl)
  rw [C11o.loadOrd_default] at hf
  exact ⟨hf.1, hf.2.1⟩

end Casbin.Enf.C04

namespace Casbin.Enf.C11
open Casbin.Policy Casbin.Enf.C04

/-- C11. If `load_policy` raises — whatever the failure point `k`, and also when the failure happens
    while the role links are being rebuilt — the policy is untouched and every role query and every decision is
    what it was before the call (the state before must be coherent: the rollback rebuilds the links from the old
    policy, which restores the old links exactly when they reflected that policy — C04's invariant). -/
theorem failed_load_frame (cfg : Cfg) (sh : Shape) (s : St) (h : Coherent cfg s) (k : Option Nat) (e : EErr)
    (hfail : (step cfg s (.loadPolicy k)).2 = .error e) :
    let s' := (step cfg s (.loadPolicy k)).1
    s'.pol = s.pol ∧ s'.autoBuild = s.autoBuild ∧ s'.autoSave = s.autoSave ∧ s'.store = s.store ∧
    (∀ n1 n2 d, hasLinkQ s'.links.g n1 n2 d = hasLinkQ s.links.g n1 n2 d) ∧
    (∀ n1 n2 d, hasLinkQ s'.links.g2 n1 n2 d = hasLinkQ s.links.g2 n1 n2 d) ∧
    (∀ n d x, x ∈ getRoles s'.links.g n d ↔ x ∈ getRoles s.links.g n d) ∧
    (∀ n d x, x ∈ getUsers s'.links.g n d ↔ x ∈ getUsers s.links.g n d) ∧
    (∀ req, enforceQ sh s' req = enforceQ sh s req) := by
  have hf := C11o.failed_loadOrd_frame cfg {} s h k (.enf e) (by rw [C11o.loadOrd_default, hfail]; rfl)
  rw [C11o.loadOrd_default] at hf
  obtain ⟨h1, h2, h3, h4, _, _, h5, h6, h7, h8, h9, _⟩ := hf
  exact ⟨h1, h2, h3, h4, h5, h6, h7, h8, h9 sh⟩

/-- the scripted adapter raises when it is to deliver fewer rules than it holds -/
theorem adapter_failure_raises (cfg : Cfg) (s : St) (k : Nat)
    (hk : k < s.store.p.length + s.store.g.length + s.store.g2.length) :
    (step cfg s (.loadPolicy (some k))).2 = .error .adapterFailure := by
  simp [step, failsAt, hk]

/-- a first delivered `g` rule shorter than the role definition makes the reload raise (while linking) -/
theorem short_rule_raises (cfg : Cfg) (s : St) (h : s.autoBuild = true) (r : Rule) (rest : List Rule)
    (hr : r.length < cfg.gCount) (hs : s.store.g = r :: rest) :
    (step cfg s (.loadPolicy none)).2 = .error .shortGroupingRule := by
  simp only [step, failsAt, Bool.false_eq_true, ↓reduceIte, loadCore, h]
  have : rebuildAll cfg s.store = .error .shortGroupingRule := by
    simp [rebuildAll, buildLinks, hs, incLinks, hr]
  rw [this]
  cases rebuildAll cfg s.pol <;> rfl

theorem successful_load_replaces_both (cfg : Cfg) (s : St) (h : s.autoBuild = true) (k : Option Nat) (r : Ret)
    (hok : (step cfg s (.loadPolicy k)).2 = .ok r) :
    (step cfg s (.loadPolicy k)).1.pol = s.store ∧
    rebuildAll cfg s.store = .ok (step cfg s (.loadPolicy k)).1.links := by
  obtain ⟨new, ho, hp, hl, _⟩ :=
    C11o.successful_loadOrd_installs_ordered cfg {} s h k r (by rw [C11o.loadOrd_default, hok]; rfl)
  cases ho
  rw [C11o.loadOrd_default] at hp hl
  exact ⟨hp, hl⟩

/-- a coherent RBAC state whose adapter store holds a short grouping rule: the reload raises, the links stay -/
example :
    let cfg : Cfg := { gCount := 2, hasAdapter := true }
    let s : St := { pol := { g := [["alice", "admin"]] }, links := { g := [["alice", "admin"]] },
                    store := { g := [["bob"]] } }
    (step cfg s (.loadPolicy none)).2 = .error .shortGroupingRule ∧
    (step cfg s (.loadPolicy none)).1.links.g = [["alice", "admin"]] := by
  decide

end Casbin.Enf.C11
