import CasbinV.Props.C02
import CasbinV.Proofs.EvalVector
/-!
# C02, string literals (F01b) — the rewriting steps skip string literals

`Model/Matcher.lean` models the pipeline: every textual step (`escape_assertion`, `remove_comments`,
`has_eval` / `get_eval_value` / `replace_eval`, the operator rewriting of `_get_expression`) is applied to the texts
outside string literals only (`split_literals`, a scanner with the states outside / inside `'…'` / inside `"…"`,
backslash escapes honoured). The theorems here are about **all** token sequences with literals (`LToks`), all
layouts, and **all** literal bodies: a body may contain `&&`, `||`, `!`, `#`, `eval(`, `p.x`, `r.x`, blanks and
quotes of the other kind. The per-text theorems of `Props/C02.lean` are used unchanged on the runs between literals.
-/
namespace Casbin.C02
open Casbin.Matcher

theorem pieces_out (y : Str) : ∃ s r, pieces none y = .out s :: r := by
  induction y with
  | nil => exact ⟨[], [], rfl⟩
  | cons c t ih =>
    obtain ⟨s, r, e⟩ := ih
    rw [pieces]
    split
    · exact ⟨_, _, rfl⟩
    · exact ⟨c :: s, r, by rw [e, consPiece]⟩

theorem pieces_noquote_append (x y s : Str) (r : List Piece) (hx : noQuote x = true)
    (e : pieces none y = .out s :: r) : pieces none (x ++ y) = .out (x ++ s) :: r := by
  induction x with
  | nil => simpa using e
  | cons c t ih =>
    simp only [noQuote, List.any_cons, Bool.not_eq_eq_eq_not, Bool.not_true, Bool.or_eq_false_iff] at hx
    have ih' := ih (by simp [noQuote, hx.2])
    simp [pieces, hx.1, ih', consPiece]

theorem pieces_noquote (x : Str) (hx : noQuote x = true) : pieces none x = [.out x] := by
  simpa using pieces_noquote_append x [] [] [] hx rfl

theorem pieces_body (q : Char) (esc : Bool) (b y : Str) (hb : bodyOk q esc b = true) :
    pieces (some (q, esc)) (b ++ q :: y) = .lit q b true :: pieces none y := by
  induction b generalizing esc with
  | nil =>
    have : esc = false := by simpa [bodyOk] using hb
    subst this
    simp [pieces]
  | cons c t ih =>
    cases esc with
    | true =>
      have ih' := ih false (by simpa [bodyOk] using hb)
      simp [pieces, ih', consPiece]
    | false =>
      simp only [bodyOk, Bool.and_eq_true, bne_iff_ne, ne_eq] at hb
      have ih' := ih _ hb.2
      simp [pieces, hb.1, ih', consPiece]

/-- the scanner finds exactly the literals: quote-free text, a literal, any text -/
theorem pieces_lit (x : Str) (l : Lit) (y : Str) (hx : noQuote x = true) (hl : l.ok = true) :
    pieces none (x ++ (l.src ++ y)) = .out x :: .lit l.q l.body true :: pieces none y := by
  simp only [Lit.ok, Bool.and_eq_true] at hl
  have e : pieces none (l.src ++ y) = .out [] :: .lit l.q l.body true :: pieces none y := by
    have := pieces_body l.q false l.body y hl.1.2
    simp only [Lit.src, List.cons_append, List.append_assoc]
    simp [pieces, hl.1.1, this]
  simpa using pieces_noquote_append x _ _ _ hx e

/-- every body without a backslash and without the literal's own quote is a literal body — in particular every text
    made of operators, `#`, `eval(`, dots, blanks and quotes of the other kind -/
theorem bodyOk_plain (q : Char) (b : Str) (h1 : q ∉ b) (h2 : '\\' ∉ b) : bodyOk q false b = true := by
  induction b with
  | nil => rfl
  | cons c t ih =>
    rw [List.mem_cons, not_or] at h1 h2
    simp [bodyOk, Ne.symm h1.1, beq_false_of_ne (Ne.symm h2.1), ih h1.2 h2.2]

example : bodyOk '"' false "a&&b||!c #d eval(p.x) r.y 'z'".toList = true := by eval_vector
example : bodyOk '"' false "a\\\"b".toList = true ∧ bodyOk '"' false "a\"b".toList = false ∧
    bodyOk '"' false "a\\".toList = false := by eval_vector

def segsOk (head : Str) (tl : List (Lit × Str)) : Bool :=
  noQuote head && tl.all fun p => p.1.ok && noQuote p.2

theorem segsOk_cons {head : Str} {l : Lit} {x : Str} {r : List (Lit × Str)} (h : segsOk head ((l, x) :: r) = true) :
    noQuote head = true ∧ l.ok = true ∧ segsOk x r = true := by
  simp only [segsOk, List.all_cons, Bool.and_eq_true] at h ⊢
  exact ⟨h.1, h.2.1.1, h.2.1.2, h.2.2⟩

def segPieces (head : Str) (tl : List (Lit × Str)) : List Piece :=
  .out head :: tl.flatMap fun p => [.lit p.1.q p.1.body true, .out p.2]

theorem segPieces_cons (head : Str) (l : Lit) (x : Str) (r : List (Lit × Str)) :
    segPieces head ((l, x) :: r) = .out head :: .lit l.q l.body true :: segPieces x r := rfl

theorem pieces_segs (head : Str) (tl : List (Lit × Str)) (h : segsOk head tl = true) :
    pieces none (renderSegs head tl) = segPieces head tl := by
  induction tl generalizing head with
  | nil => simpa [renderSegs, segPieces] using pieces_noquote head (by simpa [segsOk] using h)
  | cons p r ih =>
    obtain ⟨l, x⟩ := p
    obtain ⟨h1, h2, h3⟩ := segsOk_cons h
    rw [renderSegs, pieces_lit head l _ h1 h2, ih x h3, segPieces_cons]

theorem outside_segs (f : Str → Str) (head : Str) (tl : List (Lit × Str)) (h : segsOk head tl = true) :
    outside f (renderSegs head tl) = renderSegs (f head) (tl.map fun p => (p.1, f p.2)) := by
  unfold outside
  rw [pieces_segs head tl h]
  clear h
  induction tl generalizing head with
  | nil => simp [segPieces, renderSegs]
  | cons p r ih =>
    rw [segPieces_cons, List.map_cons, List.map_cons, List.flatten_cons, List.flatten_cons, ih]
    simp [renderSegs, Piece.text, Lit.src]

theorem outs_segs (head : Str) (tl : List (Lit × Str)) (h : segsOk head tl = true) :
    outs (renderSegs head tl) = head :: tl.map (·.2) := by
  unfold outs
  rw [pieces_segs head tl h]
  simp [segPieces, List.filterMap_flatMap, List.map_eq_flatMap]

theorem literals_segs (head : Str) (tl : List (Lit × Str)) (h : segsOk head tl = true) :
    literals (renderSegs head tl) = tl.map fun p => .lit p.1.q p.1.body true := by
  unfold literals
  rw [pieces_segs head tl h]
  simp [segPieces, List.filter_flatMap, List.filter_cons, Piece.isLit, List.map_eq_flatMap]

theorem noQuote_append (x y : Str) : noQuote (x ++ y) = (noQuote x && noQuote y) := by
  simp [noQuote, Bool.not_or]

theorem noQuote_nil : noQuote [] = true := rfl

theorem noQuote_cons (c : Char) (x : Str) : noQuote (c :: x) = (!isQuote c && noQuote x) := by
  simp [noQuote, Bool.not_or]

theorem blank_noQuote {g : Str} (h : g.all isBlank = true) : noQuote g = true := by
  simp only [noQuote, Bool.not_eq_eq_eq_not, Bool.not_true, List.any_eq_false]
  intro c hc
  have := List.all_eq_true.mp h c hc
  simp only [isBlank, Bool.or_eq_true, beq_iff_eq] at this
  rcases this with e | e <;> subst e <;> decide

theorem noQuoteToks_cons {t : Tok} {g : Str} {r : List (Tok × Str)} (h : noQuoteToks ((t, g) :: r) = true) :
    noQuote t.src = true ∧ noQuote g = true ∧ noQuoteToks r = true := by
  simpa [noQuoteToks, and_assoc] using h

theorem render_noQuote (ts : List (Tok × Str)) (h : noQuoteToks ts = true) : noQuote (render ts) = true := by
  induction ts with
  | nil => rfl
  | cons p r ih =>
    have ⟨ht, hg, hr⟩ := noQuoteToks_cons h
    rw [render, noQuote_append, noQuote_append, ht, hg, ih hr]
    rfl

theorem renderPy_pad_noQuote (ts : List (Tok × Str)) (h : noQuoteToks ts = true) :
    noQuote (renderPy (ts.map pad)) = true := by
  induction ts with
  | nil => rfl
  | cons p r ih =>
    obtain ⟨t, g⟩ := p
    have ⟨ht, hg, hr⟩ := noQuoteToks_cons h
    cases t <;> simp [pad, renderPy, Tok.py, noQuote_append, noQuote_cons, isQuote, ht, hg, ih hr]

theorem shape_runs {m : LToks} (h : m.shape = true) :
    noQuoteToks m.head = true ∧ ∀ p ∈ m.tail, p.1.ok = true ∧ noQuoteToks p.2 = true := by
  simp only [LToks.shape, LToks.runs, LToks.lits, List.all_cons, List.all_map, Bool.and_eq_true,
    List.all_eq_true, Function.comp_apply] at h
  exact ⟨h.1.1, fun p hp => ⟨h.2 p hp, h.1.2 p hp⟩⟩

theorem gap_blank {m : LToks} (h : m.shape = true) {p : Lit × List (Tok × Str)} (hp : p ∈ m.tail) :
    p.1.gap.all isBlank = true := by
  have := ((shape_runs h).2 p hp).1
  simp only [Lit.ok, Bool.and_eq_true] at this
  exact this.2

theorem segsOk_of_shape (m : LToks) (f : List (Tok × Str) → Str) (h : m.shape = true)
    (hf : ∀ ts, noQuoteToks ts = true → noQuote (f ts) = true) :
    segsOk (f m.head) (m.segs f) = true := by
  obtain ⟨h1, h2⟩ := shape_runs h
  simp only [segsOk, LToks.segs, List.all_map, Bool.and_eq_true, List.all_eq_true, Function.comp_apply]
  refine ⟨hf _ h1, fun p hp => ?_⟩
  obtain ⟨ho, hq⟩ := h2 p hp
  rw [noQuote_append, hf _ hq, blank_noQuote (gap_blank h hp)]
  exact ⟨ho, rfl⟩

theorem literals_of_segs (m : LToks) (f : List (Tok × Str) → Str) :
    (m.segs f).map (fun p => Piece.lit p.1.q p.1.body true) = m.litPieces := by
  simp [LToks.segs, LToks.litPieces, LToks.lits, Function.comp_def]

/-- the scanner reads a layout of a token sequence with literals as exactly its literals, whatever their bodies
    contain -/
theorem renderL_literals (m : LToks) (h : m.shape = true) : literals (renderL m) = m.litPieces := by
  unfold renderL
  rw [literals_segs _ _ (segsOk_of_shape m render h render_noQuote), literals_of_segs]

/-- a per-text step on a layout with literals: a step `f` that passes blanks (the literals' gaps) and maps the layout
    `render ts` of every run to `r' ts` maps the layout of the whole sequence to the layout with `r'`, literals and
    their gaps unchanged -/
theorem outside_renderL (f : Str → Str) (r' : List (Tok × Str) → Str) (m : LToks) (hs : m.shape = true)
    (hgap : ∀ g x : Str, g.all isBlank = true → f (g ++ x) = g ++ f x)
    (hrun : ∀ ts ∈ m.runs, f (render ts) = r' ts) :
    outside f (renderL m) = renderSegs (r' m.head) (m.segs r') := by
  rw [renderL, outside_segs _ _ _ (segsOk_of_shape m render hs render_noQuote), hrun _ List.mem_cons_self]
  congr 1
  simp only [LToks.segs, List.map_map]
  apply List.map_congr_left
  intro p hp
  simp only [Function.comp_apply]
  rw [hgap _ _ (gap_blank hs hp), hrun _ (List.mem_cons_of_mem _ (List.mem_map_of_mem hp))]

/-! ## `_get_expression` -/

/-- C02 (F01b): for every token sequence with string literals whose runs between the literals are
    well-formed (`wfToks`; no condition on the literal bodies), and every layout, the text `_get_expression`
    hands to the evaluator is the layout of the translated runs with the literals unchanged; in every run the
    word-like tokens are separated; and the result has exactly the literals of the source. -/
theorem getExpressionL_layout (m : LToks) (h : wfL m = true) :
    getExpressionL (renderL m) = renderPyL m ∧
    (∀ ts ∈ m.runs, pySeparated (ts.map pad) = true) ∧
    literals (getExpressionL (renderL m)) = m.litPieces := by
  simp only [wfL, Bool.and_eq_true, List.all_eq_true] at h
  obtain ⟨hs, hw⟩ := h
  have e : getExpressionL (renderL m) = renderPyL m :=
    outside_renderL getExpression _ m hs (fun g x hg => getExpression_noOp g x (blank_noOp hg))
      fun ts hts => (getExpression_layout ts (hw ts hts)).1
  refine ⟨e, fun ts hts => (getExpression_layout ts (hw ts hts)).2, ?_⟩
  rw [e]
  unfold renderPyL
  rw [literals_segs _ _ (segsOk_of_shape m _ hs renderPy_pad_noQuote), literals_of_segs]

def exampleL : LToks :=
  { head := [(.ref 'r' [] "sub".toList, []), (.other "==".toList, [])],
    tail := [({ q := '"', body := "a&&b".toList }, [(.orOp, []), (.notOp, []), (.other "(".toList, []),
                (.ref 'r' [] "obj".toList, []), (.neOp, [])]),
             ({ q := '\'', body := "p.obj #x".toList }, [(.other ")".toList, []), (.andOp, []), (.word "g".toList, []),
                (.other "(".toList, []), (.ref 'r' [] "sub".toList, []), (.other ",".toList, [])]),
             ({ q := '"', body := "eval(p.r) || \\\"!\\\"".toList, gap := [' '] }, [(.other ")".toList, [])])] }

example : wfL exampleL = true := by unfold exampleL; eval_vector
example : String.ofList (renderL exampleL) =
    "r.sub==\"a&&b\"||!(r.obj!='p.obj #x')&&g(r.sub,\"eval(p.r) || \\\"!\\\"\" )" := by
  -- compared as character lists: an equation between `String`s is decided on their UTF-8 bytes
  apply String.toList_injective
  unfold exampleL; eval_vector
example : String.ofList (getExpressionL (renderL exampleL)) =
    "r.sub==\"a&&b\" or not (r.obj!='p.obj #x') and g(r.sub,\"eval(p.r) || \\\"!\\\"\" )" := by
  apply String.toList_injective
  unfold exampleL; eval_vector

/-- F01b: operators inside string literals are not rewritten (under the per-text step
    `getExpression` they are: `literal_rewritten`) -/
theorem literal_not_rewritten :
    getExpressionL "r_sub == \"a&&b\" && r_obj != 'x||!y'".toList = "r_sub == \"a&&b\"  and  r_obj != 'x||!y'".toList := by
  eval_vector

/-! ## `escape_assertion` -/

theorem blank_not_word {c : Char} (h : isBlank c = true) : isWord c = false := by
  simp only [isBlank, Bool.or_eq_true, beq_iff_eq] at h
  rcases h with e | e <;> subst e <;> decide

theorem lastWord_blank (g : Str) (hg : g.all isBlank = true) : lastWord false g = false := by
  unfold lastWord
  cases e : g.getLast? with
  | none => rfl
  | some c =>
    have : c ∈ g := List.mem_of_getLast? e
    exact blank_not_word (List.all_eq_true.mp hg c this)

theorem quiet_blank (k : Char) (hk : isBlank k = false) (g : Str) (hg : g.all isBlank = true) (pw : Bool) :
    quiet k pw g = true := by
  induction g generalizing pw with
  | nil => rfl
  | cons c t ih =>
    simp only [List.all_cons, Bool.and_eq_true] at hg
    have hc : c ≠ k := by intro e; subst e; simp [hg.1] at hk
    simp [quiet, hc, ih hg.2]

theorem subRef_gap (k : Char) (hk : isBlank k = false) (suf : Str) (hs : suf.all isDigit = true) (g x : Str)
    (hg : g.all isBlank = true) : subRef k suf 0 false (g ++ x) = g ++ subRef k suf 0 false x := by
  rw [quiet_sub k suf hs g x false (quiet_blank k hk g hg false), lastWord_blank g hg]

theorem searchRef_gap (k : Char) (hk : isBlank k = false) (g x : Str) (hg : g.all isBlank = true) :
    searchRef k false (g ++ x) = searchRef k false x := by
  rw [quiet_search k g x false (quiet_blank k hk g hg false), lastWord_blank g hg]

theorem okForL_shape {k : Char} {suf : Str} {m : LToks} (h : okForL k suf m = true) : m.shape = true :=
  ((Bool.and_eq_true _ _).mp h).1

theorem map_noRef (k : Char) (m : LToks) (h : hasRefL k m = false) : m.map (escK k) = m := by
  simp only [hasRefL, LToks.runs, List.any_cons, List.any_map, Bool.or_eq_false_iff, List.any_eq_false,
    Function.comp_apply, Bool.not_eq_true] at h
  cases m with
  | mk head tail =>
    simp only [LToks.map, LToks.mk.injEq]
    refine ⟨noRef_map k head h.1, (List.map_congr_left fun p hp => ?_).trans (List.map_id _)⟩
    rw [noRef_map k p.2 (h.2 p hp)]
    rfl

/-- one kind (`p` or `r`): every reference outside string literals is renamed, with one suffix; gaps, other tokens
    and all literals (whatever their bodies) are untouched -/
theorem escapeKindL_layout (k : Char) (hk : isBlank k = false) (suf : Str) (hs : suf.all isDigit = true)
    (m : LToks) (h : okForL k suf m = true) :
    escapeKindL k (renderL m) = renderL (m.map (escK k)) := by
  simp only [okForL, Bool.and_eq_true, List.all_eq_true] at h
  obtain ⟨hsh, hruns⟩ := h
  have hfind : (outs (renderL m)).findSome? (searchRef k false) =
      if hasRefL k m = true then some suf else none := by
    rw [renderL, outs_segs _ _ (segsOk_of_shape m render hsh render_noQuote), List.findSome?_cons,
      okFor_search k suf _ false (hruns _ List.mem_cons_self), LToks.segs, List.map_map,
      findSome?_map_ite m.tail _ _ (fun p => hasRef k p.2) suf fun p hp => by
        rw [Function.comp_apply, searchRef_gap k hk _ _ (gap_blank hsh hp),
          okFor_search k suf _ false (hruns _ (List.mem_cons_of_mem _ (List.mem_map_of_mem hp)))]]
    rw [hasRefL, LToks.runs, List.any_cons, List.any_map]
    cases hasRef k m.head <;> rfl
  unfold escapeKindL
  rw [hfind]
  by_cases hr : hasRefL k m = true
  · simp only [hr, ↓reduceIte]
    rw [outside_renderL _ (fun ts => render (mapToks (escK k) ts)) m hsh (subRef_gap k hk suf hs)
      fun ts hts => okFor_sub k suf hs ts false (hruns ts hts)]
    simp [renderL, LToks.map, LToks.segs, Function.comp_def]
  · have hr' : hasRefL k m = false := by simpa using hr
    simp only [hr', Bool.false_eq_true, ↓reduceIte]
    rw [map_noRef k m hr']

theorem map_map (f g : Tok → Tok) (m : LToks) : (m.map f).map g = m.map (g ∘ f) := by
  simp [LToks.map, mapToks, List.map_map, Function.comp_def]

theorem escK_noQuote (k : Char) (t : Tok) (h : noQuote t.src = true) :
    noQuote (escK k t).src = true := by
  cases t with
  | ref k' suf f =>
    by_cases e : k' = k
    · subst e
      simp only [escK, ↓reduceIte, Tok.src]
      simp only [Tok.src, noQuote, List.any_cons, List.any_append, Bool.not_eq_eq_eq_not, Bool.not_true,
        Bool.or_eq_false_iff] at h ⊢
      exact ⟨h.1, h.2.1, by decide, h.2.2.2⟩
    · simpa [escK, e] using h
  | _ => exact h

theorem shape_map (k : Char) (m : LToks) (h : m.shape = true) :
    (m.map (escK k)).shape = true := by
  have hn : ∀ ts, noQuoteToks ts = true → noQuoteToks (mapToks (escK k) ts) = true := by
    intro ts hts
    simp only [noQuoteToks, mapToks, List.all_map, List.all_eq_true, Function.comp_apply, Bool.and_eq_true] at hts ⊢
    exact fun p hp => ⟨escK_noQuote k p.1 (hts p hp).1, (hts p hp).2⟩
  obtain ⟨h1, h2⟩ := shape_runs h
  simp only [LToks.shape, LToks.runs, LToks.lits, LToks.map, List.all_cons, List.all_map, Bool.and_eq_true,
    List.all_eq_true, Function.comp_apply]
  exact ⟨⟨hn _ h1, fun p hp => hn _ (h2 p hp).2⟩, fun p hp => (h2 p hp).1⟩

theorem litPieces_map (f : Tok → Tok) (m : LToks) : (m.map f).litPieces = m.litPieces := by
  simp [LToks.litPieces, LToks.lits, LToks.map, Function.comp_def]

/-- C02 (F01b): for every token sequence with string literals in which, *outside the literals*,
    all policy references carry one suffix `sp` and all request references one suffix `sr` and nothing else looks
    like a reference (`okFor` on every run; no condition on the literal bodies), and every layout:
    `escape_assertion` yields the same layout of the renamed tokens, and the literals are exactly those of the source. -/
theorem escapeAssertionL_layout (sp sr : Str) (hp : sp.all isDigit = true) (hr : sr.all isDigit = true)
    (m : LToks) (h1 : okForL 'p' sp m = true) (h2 : okForL 'r' sr (m.map (escK 'p')) = true) :
    escapeAssertionL (renderL m) = renderL (m.map escTok) ∧
    literals (escapeAssertionL (renderL m)) = m.litPieces := by
  have e : escapeAssertionL (renderL m) = renderL (m.map escTok) := by
    unfold escapeAssertionL
    rw [escapeKindL_layout 'p' (by decide) sp hp m h1, escapeKindL_layout 'r' (by decide) sr hr _ h2, map_map]
    rfl
  refine ⟨e, ?_⟩
  have hsh : (m.map escTok).shape = true := by
    have := shape_map 'r' _ (okForL_shape h2)
    rw [map_map] at this
    exact this
  rw [e, renderL_literals _ hsh, litPieces_map]

def exampleEscL : LToks :=
  { head := [(.ref 'r' ['2'] "sub".toList, [' ']), (.other "==".toList, [' '])],
    tail := [({ q := '"', body := "p.obj".toList, gap := [' '] },
                [(.andOp, [' ']), (.ref 'p' ['2'] "obj".toList, [' ']), (.neOp, [' '])]),
             ({ q := '\'', body := "r.x p9.y".toList, gap := [' '] },
                [(.orOp, [' ']), (.ref 'p' ['2'] "act".toList, [' ']), (.other "==".toList, [' '])]),
             ({ q := '"', body := "p2.act".toList }, [])] }

example : okForL 'p' ['2'] exampleEscL = true ∧ okForL 'r' ['2'] (exampleEscL.map (escK 'p')) = true := by
  unfold exampleEscL; eval_vector
example : String.ofList (escapeAssertionL (renderL exampleEscL)) =
    "r2_sub == \"p.obj\" && p2_obj != 'r.x p9.y' || p2_act == \"p2.act\"" := by
  apply String.toList_injective
  unfold exampleEscL; eval_vector

/-- F01b: reference-like text inside a string literal is not renamed, and does not decide
    the suffix (under the per-text step it is: `escape_outside_hypotheses`, first conjunct) -/
theorem literal_not_renamed :
    escapeAssertionL "r.obj == \"p.txt\" && 'p7.x' != p2.y".toList = "r_obj == \"p.txt\" && 'p7.x' != p2_y".toList := by
  eval_vector

/-! ## `remove_comments` -/

def noHashSegs (head : Str) (tl : List (Lit × Str)) : Bool :=
  !head.contains '#' && tl.all fun p => !p.2.contains '#'

theorem noHashSegs_head {head : Str} {tl : List (Lit × Str)} (h : noHashSegs head tl = true) : '#' ∉ head := by
  simp only [noHashSegs, Bool.and_eq_true] at h
  simpa using h.1

theorem noHashSegs_cons {head : Str} {l : Lit} {x : Str} {r : List (Lit × Str)}
    (h : noHashSegs head ((l, x) :: r) = true) : noHashSegs x r = true := by
  simp only [noHashSegs, List.all_cons, Bool.and_eq_true] at h ⊢
  exact ⟨h.2.1, h.2.2⟩

theorem cutComment_out_clean (x : Str) (r : List Piece) (hn : '#' ∉ x) :
    cutComment (.out x :: r) = (cutComment r).map (x ++ ·) := by
  have : x.contains '#' = false := by simpa using hn
  simp only [cutComment, this, Bool.false_eq_true, ↓reduceIte]

theorem cutComment_noquote (x z : Str) (hx : noQuote x = true) (hn : '#' ∉ x) :
    cutComment (pieces none (x ++ z)) = (cutComment (pieces none z)).map (x ++ ·) := by
  obtain ⟨s, r, e⟩ := pieces_out z
  have hx' : x.contains '#' = false := by simpa using hn
  rw [pieces_noquote_append x z s r hx e, e, cutComment, cutComment, List.contains_append, hx', Bool.false_or]
  split
  · rw [List.takeWhile_append_of_pos (bne_of_not_mem hn)]
    rfl
  · rw [Option.map_map]
    congr 1; funext y; exact List.append_assoc ..

theorem cutComment_segs (head : Str) (tl : List (Lit × Str)) (z : Str) (h : segsOk head tl = true)
    (hh : noHashSegs head tl = true) :
    cutComment (pieces none (renderSegs head tl ++ z)) =
      (cutComment (pieces none z)).map (renderSegs head tl ++ ·) := by
  induction tl generalizing head with
  | nil => exact cutComment_noquote head z (by simpa [segsOk] using h) (noHashSegs_head hh)
  | cons p r ih =>
    obtain ⟨l, x⟩ := p
    obtain ⟨h1, h2, h3⟩ := segsOk_cons h
    rw [renderSegs, List.append_assoc, List.append_assoc, pieces_lit head l _ h1 h2,
      cutComment_out_clean _ _ (noHashSegs_head hh)]
    simp only [cutComment, ih x h3 (noHashSegs_cons hh), Option.map_map, Piece.text, Lit.src]
    congr 1; funext y; simp

/-- C02 (F01b): for every text with string literals whose parts *outside* the literals contain no
    `#` (no condition on the literal bodies): whatever follows a `#` after it is dropped and the text is
    stripped; without a comment the text is returned as it is. -/
theorem removeCommentsL_prefix (head : Str) (tl : List (Lit × Str)) (y : Str) (h : segsOk head tl = true)
    (hh : noHashSegs head tl = true) :
    removeCommentsL (renderSegs head tl ++ '#' :: y) = strip (renderSegs head tl) ∧
    removeCommentsL (renderSegs head tl) = renderSegs head tl := by
  have h1 := cutComment_segs head tl ('#' :: y) h hh
  have h2 := cutComment_segs head tl [] h hh
  obtain ⟨s, r, e⟩ := pieces_out y
  have e1 : pieces none ('#' :: y) = .out ('#' :: s) :: r := by simp [pieces, isQuote, e, consPiece]
  rw [e1] at h1
  rw [List.append_nil] at h2
  unfold removeCommentsL
  rw [h1, h2]
  simp [cutComment, pieces]

def noHashToks (ts : List (Tok × Str)) : Bool := !(render ts).contains '#'

/-- a trailing comment after a layout of a token sequence with literals is dropped, whatever the literals contain
    (`#` included) -/
theorem removeCommentsL_layout (m : LToks) (y : Str) (h : m.shape = true) (hh : m.runs.all noHashToks = true) :
    removeCommentsL (renderL m ++ '#' :: y) = strip (renderL m) ∧ removeCommentsL (renderL m) = renderL m := by
  unfold renderL
  refine removeCommentsL_prefix _ _ y (segsOk_of_shape m render h render_noQuote) ?_
  simp only [LToks.runs, List.all_cons, List.all_map, Bool.and_eq_true, List.all_eq_true, Function.comp_apply,
    noHashToks] at hh
  simp only [noHashSegs, LToks.segs, List.all_map, Bool.and_eq_true, List.all_eq_true, Function.comp_apply]
  refine ⟨hh.1, fun p hp => ?_⟩
  have hg : '#' ∉ p.1.gap := not_mem_of_all (gap_blank h hp) rfl
  simpa [hg] using hh.2 p hp

example : (exampleL.shape && exampleL.runs.all noHashToks) = true := by unfold exampleL; eval_vector
example : String.ofList (removeCommentsL (renderL exampleL ++ "  # x \"y".toList)) =
    "r.sub==\"a&&b\"||!(r.obj!='p.obj #x')&&g(r.sub,\"eval(p.r) || \\\"!\\\"\" )" := by
  apply String.toList_injective
  unfold exampleL; eval_vector

/-- F01b: a `#` inside a string literal does not cut the matcher (under the per-text step it
    does: `hash_in_literal_cuts`) -/
theorem hash_in_literal_kept :
    removeCommentsL "r_obj == \"a#b\"  # c".toList = "r_obj == \"a#b\"".toList ∧
    removeCommentsL "r_obj == 'a#b'".toList = "r_obj == 'a#b'".toList := by eval_vector

/-! ## `eval()`: detection, argument extraction and splicing, outside string literals -/

theorem getEvalValueL_segs (head : Str) (tl : List (Lit × Str)) (h : segsOk head tl = true) :
    getEvalValueL (renderSegs head tl) = getEvalValue head ++ tl.flatMap fun p => getEvalValue p.2 := by
  unfold getEvalValueL
  rw [outs_segs head tl h]
  simp [List.flatMap_cons, List.flatMap_map]

/-- a text outside literals with its `eval()` calls: the calls (each with the text before it), and the text after
    the last one -/
abbrev ESeg := List EvalCall × Str

def ESeg.text (e : ESeg) : Str := renderEvals e.1 e.2

def esegs (tl : List (Lit × ESeg)) : List (Lit × Str) := tl.map fun p => (p.1, p.2.text)

/-- the text `replace_eval` must produce: every text has its calls replaced by the next rule texts; literals stay -/
def splicedSegs : ESeg → List (Lit × ESeg) → List Str → Str
  | e, [], rules => spliced e.1 rules e.2
  | e, (l, e') :: r, rules =>
    spliced e.1 (rules.take e.1.length) e.2 ++ (l.src ++ splicedSegs e' r (rules.drop e.1.length))

def callCount (e : ESeg) (tl : List (Lit × ESeg)) : Nat := e.1.length + (tl.map fun p => p.2.1.length).sum

def okESegs (e : ESeg) (tl : List (Lit × ESeg)) : Bool :=
  okEvals false e.1 e.2 && tl.all fun p => okEvals false p.2.1 p.2.2

/-- C02 (F01b): `get_eval_value` returns the names of the calls outside string literals, in order; text that looks
    like a call *inside* a literal is not a call (no condition on the literal bodies) -/
theorem getEvalValueL_layout (e : ESeg) (tl : List (Lit × ESeg)) (hq : segsOk e.text (esegs tl) = true)
    (hok : okESegs e tl = true) :
    getEvalValueL (renderSegs e.text (esegs tl)) = e.1.map (·.name) ++ tl.flatMap fun p => p.2.1.map (·.name) := by
  simp only [okESegs, Bool.and_eq_true, List.all_eq_true] at hok
  rw [getEvalValueL_segs _ _ hq, esegs, List.flatMap_map, List.flatMap_def, List.flatMap_def]
  congr 1
  · exact getEvalValue_layout _ _ _ hok.1
  · exact congrArg _ (List.map_congr_left fun p hp => getEvalValue_layout _ _ _ (hok.2 p hp))

theorem hasEvalL_iff (e : ESeg) (tl : List (Lit × ESeg)) (hq : segsOk e.text (esegs tl) = true)
    (hok : okESegs e tl = true) :
    hasEvalL (renderSegs e.text (esegs tl)) = decide (0 < callCount e tl) := by
  unfold hasEvalL
  rw [getEvalValueL_layout e tl hq hok]
  have hlen : (e.1.map (·.name) ++ tl.flatMap fun p => p.2.1.map (·.name)).length = callCount e tl := by
    simp [callCount, List.length_flatMap]
  rw [← hlen]
  cases (e.1.map (·.name) ++ tl.flatMap fun p => p.2.1.map (·.name)) <;> simp

/-- one text outside literals: its calls take the next rule texts, the others go on to the remaining pieces -/
theorem replaceEvalPieces_out (e : ESeg) (r : List Piece) (rules : List Str) (hok : okEvals false e.1 e.2 = true)
    (hl : e.1.length ≤ rules.length) :
    replaceEvalPieces (.out e.text :: r) rules =
      (replaceEvalPieces r (rules.drop e.1.length)).map (spliced e.1 (rules.take e.1.length) e.2 ++ ·) := by
  have hn : (getEvalValue e.text).length = e.1.length := by
    rw [getEvalValue, ESeg.text, getEvalValue_layout _ _ _ hok, List.length_map]
  rw [replaceEvalPieces, hn, replaceEval, ESeg.text,
    replaceEval_layout e.1 e.2 _ false hok (by rw [List.length_take]; omega)]

theorem replaceEvalPieces_segs (e : ESeg) (tl : List (Lit × ESeg)) (rules : List Str)
    (hok : okESegs e tl = true) (hl : rules.length = callCount e tl) :
    replaceEvalPieces (segPieces e.text (esegs tl)) rules = some (splicedSegs e tl rules) := by
  induction tl generalizing e rules with
  | nil =>
    have hl : rules.length = e.1.length := by simpa [callCount] using hl
    rw [show segPieces e.text (esegs []) = [.out e.text] from rfl,
      replaceEvalPieces_out e [] rules (by simpa [okESegs] using hok) (by omega), ← hl, List.take_length]
    simp [replaceEvalPieces, splicedSegs]
  | cons p r ih =>
    obtain ⟨l, e'⟩ := p
    simp only [okESegs, List.all_cons, Bool.and_eq_true] at hok
    simp only [callCount, List.map_cons, List.sum_cons] at hl
    rw [show esegs ((l, e') :: r) = (l, e'.text) :: esegs r from rfl, segPieces_cons,
      replaceEvalPieces_out e _ rules hok.1 (by omega)]
    have ih' := ih e' (rules.drop e.1.length) (by simp [okESegs, hok.2])
      (by simp only [callCount, List.length_drop]; omega)
    simp [replaceEvalPieces, ih', splicedSegs, Piece.text, Lit.src]

/-- C02 (F01b): the calls outside string literals are replaced by the parenthesised rule texts, in
    order; everything else — the string literals included, whatever their bodies (`eval(x)` too) — is untouched -/
theorem replaceEvalL_layout (e : ESeg) (tl : List (Lit × ESeg)) (rules : List Str)
    (hq : segsOk e.text (esegs tl) = true) (hok : okESegs e tl = true) (hl : rules.length = callCount e tl) :
    replaceEvalL (renderSegs e.text (esegs tl)) rules = some (splicedSegs e tl rules) := by
  unfold replaceEvalL
  rw [pieces_segs _ _ hq, replaceEvalPieces_segs e tl rules hok hl]

def exampleESeg : ESeg := ([{ pre := [], ws1 := [' '], ws2 := [' '], name := "p_sub_rule".toList, ws3 := [' '] }],
  " && r_obj == ".toList)
def exampleETail : List (Lit × ESeg) :=
  [({ q := '"', body := "eval(p_x)".toList },
      ([{ pre := " || ".toList, ws1 := [], ws2 := [], name := "p_rule2".toList, ws3 := [] }], " && r_act != ".toList)),
   ({ q := '\'', body := "a)b".toList }, ([], []))]

example : (segsOk exampleESeg.text (esegs exampleETail) && okESegs exampleESeg exampleETail) = true := by
  unfold exampleESeg exampleETail; eval_vector
example : String.ofList (renderSegs exampleESeg.text (esegs exampleETail)) =
    "eval ( p_sub_rule ) && r_obj == \"eval(p_x)\" || eval(p_rule2) && r_act != 'a)b'" := by
  apply String.toList_injective
  unfold exampleESeg exampleETail; eval_vector
example : (replaceEvalL (renderSegs exampleESeg.text (esegs exampleETail)) ["A".toList, "B".toList]).map String.ofList =
    some "(A) && r_obj == \"eval(p_x)\" || (B) && r_act != 'a)b'" := by
  refine Option.map_eq_some_iff.2 ⟨_, ?_, String.ofList_toList⟩
  unfold exampleESeg exampleETail; eval_vector
example : (getEvalValueL (renderSegs exampleESeg.text (esegs exampleETail))).map String.ofList =
    ["p_sub_rule", "p_rule2"] := by unfold exampleESeg exampleETail; eval_vector

/-- F01b: `eval(…)` inside a string literal is not a call -/
theorem eval_in_literal_ignored :
    hasEvalL "r_sub == \"eval(p_rule)\"".toList = false ∧
    replaceEvalL "eval(p_a) && r_sub == 'eval(p_b)'".toList ["X".toList] = some "(X) && r_sub == 'eval(p_b)'".toList := by
  eval_vector

/-! ## the two load/enforce-time steps together, and flat token sequences -/

/-- C02 (F01b): `_get_expression(escape_assertion(text))` for every layout of every token sequence with
    string literals meeting the run-level hypotheses: the layout of the renamed, translated tokens; the string
    literals of the result are exactly those of the source (`…_preserves_literals`) -/
theorem matcherL_layout (sp sr : Str) (hp : sp.all isDigit = true) (hr : sr.all isDigit = true)
    (m : LToks) (h1 : okForL 'p' sp m = true) (h2 : okForL 'r' sr (m.map (escK 'p')) = true)
    (h3 : wfL (m.map escTok) = true) :
    getExpressionL (escapeAssertionL (renderL m)) = renderPyL (m.map escTok) ∧
    literals (getExpressionL (escapeAssertionL (renderL m))) = m.litPieces := by
  rw [(escapeAssertionL_layout sp sr hp hr m h1 h2).1]
  obtain ⟨e, _, hl⟩ := getExpressionL_layout _ h3
  exact ⟨e, by rw [hl, litPieces_map]⟩

theorem renderSegs_prefix (a head : Str) (tl : List (Lit × Str)) :
    renderSegs (a ++ head) tl = a ++ renderSegs head tl := by
  cases tl with
  | nil => rfl
  | cons p r => obtain ⟨l, x⟩ := p; simp [renderSegs]

/-- every flat sequence of tokens and literals is a layout of its grouping: the theorems about `LToks` cover all
    flat sequences -/
theorem renderItems_group (is : List LItem) : renderItems is = renderL (group is) := by
  induction is with
  | nil => rfl
  | cons i r ih =>
    cases i with
    | tok t g =>
      simp only [renderItems, group, ih, renderL, render, LToks.segs]
      rw [← renderSegs_prefix]
    | lit l =>
      simp only [renderItems, group, ih, renderL, render, LToks.segs, List.map_cons, renderSegs]
      simp [renderSegs_prefix]

theorem group_toks_append (ts : List (Tok × Str)) (rest : List LItem) :
    group ((ts.map fun p => LItem.tok p.1 p.2) ++ rest) = { group rest with head := ts ++ (group rest).head } := by
  induction ts with
  | nil => rfl
  | cons q qs ih => simp [group, ih]

theorem group_ungroupTail (tl : List (Lit × List (Tok × Str))) :
    group (ungroupTail tl) = { head := [], tail := tl } := by
  induction tl with
  | nil => rfl
  | cons p r ih => simp [ungroupTail, group, group_toks_append, ih]

theorem group_ungroup (m : LToks) : group (ungroup m) = m := by
  simp [ungroup, group_toks_append, group_ungroupTail]

/-! ## the literals pass through every step unchanged: the last conjuncts of the layout theorems, with the source's
     literals read off its text (`renderL_literals`) instead of its token sequence -/

theorem getExpressionL_preserves_literals (m : LToks) (h : wfL m = true) :
    literals (getExpressionL (renderL m)) = literals (renderL m) := by
  have hs : m.shape = true := by
    simp only [wfL, Bool.and_eq_true] at h
    exact h.1
  rw [(getExpressionL_layout m h).2.2, renderL_literals m hs]

theorem escapeAssertionL_preserves_literals (sp sr : Str) (hp : sp.all isDigit = true) (hr : sr.all isDigit = true)
    (m : LToks) (h1 : okForL 'p' sp m = true) (h2 : okForL 'r' sr (m.map (escK 'p')) = true) :
    literals (escapeAssertionL (renderL m)) = literals (renderL m) := by
  rw [(escapeAssertionL_layout sp sr hp hr m h1 h2).2, renderL_literals m (okForL_shape h1)]

theorem matcherL_preserves_literals (sp sr : Str) (hp : sp.all isDigit = true) (hr : sr.all isDigit = true)
    (m : LToks) (h1 : okForL 'p' sp m = true) (h2 : okForL 'r' sr (m.map (escK 'p')) = true)
    (h3 : wfL (m.map escTok) = true) :
    literals (getExpressionL (escapeAssertionL (renderL m))) = literals (renderL m) := by
  rw [(matcherL_layout sp sr hp hr m h1 h2 h3).2, renderL_literals m (okForL_shape h1)]

example : literals (getExpressionL (renderL exampleL)) =
    [.lit '"' "a&&b".toList true, .lit '\'' "p.obj #x".toList true, .lit '"' "eval(p.r) || \\\"!\\\"".toList true] := by
  unfold exampleL; eval_vector

theorem renderEvals_cons_noQuote {c : EvalCall} {rest : List EvalCall} {tail : Str}
    (h : noQuote (renderEvals (c :: rest) tail) = true) :
    noQuote c.pre = true ∧ noQuote (renderEvals rest tail) = true := by
  simp_all [renderEvals, noQuote_append, noQuote_cons]

theorem renderEvals_tail_noQuote (segs : List EvalCall) (tail : Str) (h : noQuote (renderEvals segs tail) = true) :
    noQuote tail = true := by
  induction segs with
  | nil => exact h
  | cons c rest ih => exact ih (renderEvals_cons_noQuote h).2

theorem spliced_noQuote (segs : List EvalCall) (rules : List Str) (tail : Str)
    (h : noQuote (renderEvals segs tail) = true) (hr : ∀ r ∈ rules, noQuote r = true) :
    noQuote (spliced segs rules tail) = true := by
  induction segs generalizing rules with
  | nil => cases rules <;> exact h
  | cons c rest ih =>
    have ⟨hp, hrest⟩ := renderEvals_cons_noQuote h
    cases rules with
    | nil => exact renderEvals_tail_noQuote rest tail hrest
    | cons r rs =>
      have ⟨h1, h2⟩ := List.forall_mem_cons.mp hr
      simp only [spliced, noQuote_append, noQuote_cons, hp, h1, ih rs hrest h2]
      rfl

theorem literals_lit (x : Str) (l : Lit) (y : Str) (hx : noQuote x = true) (hl : l.ok = true) :
    literals (x ++ (l.src ++ y)) = .lit l.q l.body true :: literals y := by
  unfold literals
  rw [pieces_lit x l y hx hl]
  simp [List.filter_cons, Piece.isLit]

theorem literals_noQuote (x : Str) (hx : noQuote x = true) : literals x = [] := by
  unfold literals
  rw [pieces_noquote x hx]
  simp [Piece.isLit]

/-- with rule texts that contain no quote character, the spliced text has exactly the string literals of the matcher -/
theorem replaceEvalL_preserves_literals (e : ESeg) (tl : List (Lit × ESeg)) (rules : List Str)
    (hq : segsOk e.text (esegs tl) = true) (hr : ∀ r ∈ rules, noQuote r = true) :
    literals (splicedSegs e tl rules) = literals (renderSegs e.text (esegs tl)) := by
  rw [literals_segs _ _ hq]
  induction tl generalizing e rules with
  | nil =>
    have : noQuote e.text = true := by simpa [segsOk, esegs] using hq
    simpa [splicedSegs, esegs] using literals_noQuote _ (spliced_noQuote e.1 rules e.2 this hr)
  | cons p r ih =>
    obtain ⟨l, e'⟩ := p
    obtain ⟨h1, h2, h3⟩ := segsOk_cons (x := e'.text) (r := esegs r) hq
    have hx := spliced_noQuote e.1 (rules.take e.1.length) e.2 h1 (fun x hx => hr x (List.mem_of_mem_take hx))
    have ih' := ih e' (rules.drop e.1.length) h3 (fun x hx => hr x (List.mem_of_mem_drop hx))
    rw [splicedSegs, literals_lit _ l _ hx h2, ih']
    simp [esegs]

/-! ## what stays outside: the scanner's notion of a literal

The scanner knows `'…'` and `"…"` with backslash escapes. A quote character that is *not* a literal delimiter for the
evaluator (none exists in the Casbin expression language; e.g. a Python triple-quoted string) is read as a delimiter. -/

/-- a triple-quoted Python string is read as three literals by the scanner, so an operator in it is rewritten -/
theorem triple_quote_partial :
    getExpressionL "\"\"\"a\"&&\"b\"\"\"".toList = "\"\"\"a\" and \"b\"\"\"".toList := by eval_vector

end Casbin.C02
