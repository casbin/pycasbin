import CasbinV.Model.Builtin
import CasbinV.Spec.Builtin
import CasbinV.Proofs.ListFacts
import CasbinV.Proofs.PyStr
import CasbinV.Proofs.EvalVector
/-!
# C13, continued — ipMatch (IPv4 and IPv6): membership of an address in an address or CIDR block

Wherever both texts denote (address: dotted quad or an RFC 4291 IPv6 text with optional zone; pattern: such an address,
optionally `/len` with `len` up to the family's width) the model answers `same family ∧ leading len bits equal`
(`ipMatch_eq_spec`); the masking of the implementation is that prefix reading for every width (`maskTo_eq`).
Independent of the pattern functions of `Props/C13.lean`.
-/
namespace Casbin.C13
open Casbin.Builtin Casbin.Builtin.Spec

/-- the model's `s.split(sep)` is the one of `Py/Str.lean`; what is known of it is in `Proofs/PyStr.lean` -/
theorem splitOn_eq (sep : Char) (s : Str) : splitOn sep s = Py.splitOn sep s := by
  induction s with
  | nil => rfl
  | cons c s ih => rw [splitOn, Py.splitOn, ih]; rfl  -- two `match` constants with one unfolding

theorem parseOctet_eq_some (s : Str) (v : Nat) :
    parseOctet s = some v ↔ s ≠ [] ∧ s.all isAsciiDigit = true ∧ s.length ≤ 3 ∧
      (s ≠ ['0'] → s.head? ≠ some '0') ∧ digitsVal s 0 ≤ 255 ∧ digitsVal s 0 = v := by
  simp only [parseOctet, Option.ite_none_left_eq_some, Bool.not_eq_true, Bool.not_eq_false', Nat.not_lt, gt_iff_lt,
    List.isEmpty_iff, Option.some.injEq, ne_eq, Bool.and_eq_true, bne_iff_ne, beq_iff_eq, not_and]

theorem parseOctet_digits (w : Str) (v : Nat) (h : parseOctet w = some v) : w.all isAsciiDigit = true :=
  ((parseOctet_eq_some w v).1 h).2.1

theorem parseV4_chars (s : Str) (x : Nat) (h : parseV4 s = some x) :
    s.all (fun c => isAsciiDigit c || c == '.') = true := by
  rw [← Py.all_of_splitOn, ← splitOn_eq]
  unfold parseV4 at h
  split at h
  · rename_i a b c d heq
    rw [heq]
    split at h
    · rename_i va vb vc vd ha hb hc hd
      simp [parseOctet_digits _ _ ha, parseOctet_digits _ _ hb, parseOctet_digits _ _ hc, parseOctet_digits _ _ hd]
    · simp at h
  · simp at h

theorem parsePrefixW_eq_some (w : Nat) (s : Str) (v : Nat) :
    parsePrefixW w s = some v ↔ s ≠ [] ∧ s.all isAsciiDigit = true ∧ digitsVal s 0 ≤ w ∧ digitsVal s 0 = v := by
  simp only [parsePrefixW, Option.ite_none_left_eq_some, Bool.or_eq_true, not_or, Bool.not_eq_true, Bool.not_eq_false',
    Nat.not_lt, gt_iff_lt, List.isEmpty_iff, Option.some.injEq, ne_eq, and_assoc]

theorem parsePrefixW_digits (w : Nat) (l : Str) (len : Nat) (h : parsePrefixW w l = some len) :
    l.all isAsciiDigit = true ∧ len ≤ w := by
  obtain ⟨-, hd, hw, rfl⟩ := (parsePrefixW_eq_some w l len).1 h
  exact ⟨hd, hw⟩

theorem parsePrefix_digits (l : Str) (len : Nat) (h : parsePrefix l = some len) :
    l.all isAsciiDigit = true ∧ len ≤ 32 := parsePrefixW_digits 32 l len h

theorem parsePrefix6_digits (l : Str) (len : Nat) (h : parsePrefix6 l = some len) :
    l.all isAsciiDigit = true ∧ len ≤ 128 := parsePrefixW_digits 128 l len h

theorem maskTo_eq_mul (w len z : Nat) : maskTo w len z = 2 ^ (w - len) * (z / 2 ^ (w - len)) := by
  have := Nat.div_add_mod z (2 ^ (w - len))
  unfold maskTo; omega

/-- the implementation (`addr & netmask` on both sides) is the specification (the leading `len` bits agree),
    for every address width -/
theorem maskTo_eq (w len x y : Nat) : (maskTo w len x == maskTo w len y) = sameBlock w len x y := by
  rw [maskTo_eq_mul, maskTo_eq_mul, sameBlock, Bool.eq_iff_iff, beq_iff_eq, beq_iff_eq,
    Nat.mul_left_cancel_iff (Nat.pow_pos (by decide))]

/-- the specification in the usual words: the leading `len` bits agree -/
theorem sameBlock_shift (w len x y : Nat) : sameBlock w len x y = (x >>> (w - len) == y >>> (w - len)) := by
  simp [sameBlock, Nat.shiftRight_eq_div_pow]

/-- as an interval: the block is `[network address, network address + 2^(w-len))` -/
theorem sameBlock_iff_interval (w len x y : Nat) :
    sameBlock w len x y = true ↔ maskTo w len y ≤ x ∧ x < maskTo w len y + 2 ^ (w - len) := by
  have hm : 0 < 2 ^ (w - len) := Nat.pow_pos (by decide)
  rw [maskTo_eq_mul, sameBlock, beq_iff_eq, Nat.div_eq_iff hm, Nat.mul_comm]
  omega

theorem sameBlock_full (w x y : Nat) : sameBlock w w x y = (x == y) := by
  simp [sameBlock]

theorem sameBlock_zero (w x y : Nat) (hx : x < 2 ^ w) (hy : y < 2 ^ w) : sameBlock w 0 x y = true := by
  simp [sameBlock, Nat.div_eq_of_lt hx, Nat.div_eq_of_lt hy]

theorem splitScope_mem (s a : Str) (c : Char) (h : splitScope s = some a) (hc : c ∈ a) : c ∈ s := by
  refine Py.mem_of_mem_splitOn '%' s a c (splitOn_eq .. ▸ ?_) hc
  unfold splitScope at h
  split at h
  · next e => simp_all
  · next e => simp_all
  · simp at h

theorem parseV6Core_colon (s : Str) (x : Nat) (h : parseV6Core s = some x) : ':' ∈ s := by
  apply Classical.byContradiction
  intro hn
  unfold parseV6Core at h
  rw [splitOn_eq, Py.splitOn_not_mem _ _ hn] at h
  simp at h

theorem parseV6_eq_some (s : Str) (x : Nat) :
    parseV6 s = some x ↔ '/' ∉ s ∧ ∃ addr, splitScope s = some addr ∧ parseV6Core addr = some x := by
  unfold parseV6
  split
  · simp_all
  · split <;> simp_all

theorem parseV6_chars (s : Str) (x : Nat) (h : parseV6 s = some x) : ':' ∈ s ∧ '/' ∉ s := by
  obtain ⟨hs, addr, ha, hc⟩ := (parseV6_eq_some s x).1 h
  exact ⟨splitScope_mem s addr ':' ha (parseV6Core_colon addr x hc), hs⟩

/-- no text is both an IPv4 and an IPv6 address (so the order of the two attempts in `ip_address` / `ip_network`
    does not matter) -/
theorem parseV4_parseV6_disjoint (s : Str) (x : Nat) (h : parseV6 s = some x) : parseV4 s = none := by
  cases h4 : parseV4 s with
  | none => rfl
  | some y =>
    exact absurd (parseV6_chars s x h).1 (not_mem_of_all (parseV4_chars s y h4) (by decide))

theorem parseAddr_v4 (s : Str) (x : Nat) (h : parseV4 s = some x) : parseAddr s = some (.v4, x) := by
  simp [parseAddr, h]

theorem parseAddr_v6 (s : Str) (x : Nat) (h : parseV6 s = some x) : parseAddr s = some (.v6, x) := by
  simp [parseAddr, h, parseV4_parseV6_disjoint s x h]

theorem parseAddr_cases (s : Str) (f : Fam) (y : Nat) (h : parseAddr s = some (f, y)) :
    (f = .v4 ∧ parseV4 s = some y) ∨ (f = .v6 ∧ parseV4 s = none ∧ parseV6 s = some y) := by
  unfold parseAddr at h
  split at h
  next h4 => cases h; exact .inl ⟨rfl, h4⟩
  next h4 =>
    split at h <;> cases h
    next h6 => exact .inr ⟨rfl, h4, h6⟩

/-- the model is the specification wherever both texts denote (all four family combinations) -/
theorem ipMatch_eq_spec (a b : Str) (r : Bool) (h : ipSpec a b = some r) : ipMatch a b = .ok r := by
  unfold ipSpec at h
  split at h <;> cases h
  rename_i f x g y len ha hb
  unfold blockDen at hb
  unfold ipMatch parseNet4 parseNet6
  rw [ha]
  split at hb
  · -- a plain address
    rename_i addr hs
    cases hp : parseAddr addr with
    | none => simp [hp] at hb
    | some fy =>
      simp only [hp, Option.some.injEq, Prod.mk.injEq] at hb
      obtain ⟨rfl, rfl, rfl⟩ := hb
      rcases parseAddr_cases _ _ _ hp with ⟨hg, h4⟩ | ⟨hg, h4, h6⟩
      · -- IPv4: the first attempt reads the pattern
        simp only [hs, h4, hg]
        cases f <;> simp [maskTo_eq, Fam.width]
      · -- IPv6: the first attempt fails, the second reads the pattern
        simp only [hs, h4, h6, hg]
        cases f <;> simp [maskTo_eq, Fam.width]
  · -- an address and a prefix length
    rename_i addr m hs
    cases hp : parseAddr addr with
    | none => simp [hp] at hb
    | some fy =>
      cases hl : parsePrefixW fy.1.width m with
      | none => simp [hp, hl] at hb
      | some len' =>
        simp only [hp, hl, Option.some.injEq, Prod.mk.injEq] at hb
        obtain ⟨rfl, rfl, rfl⟩ := hb
        rcases parseAddr_cases _ _ _ hp with ⟨hg, h4⟩ | ⟨hg, h4, h6⟩
        · have hl' : parsePrefix m = some len' := by rw [hg] at hl; exact hl
          simp only [hs, h4, hg, parseMask4, hl']
          cases f <;> simp [maskTo_eq, Fam.width]
        · have hl' : parsePrefix6 m = some len' := by rw [hg] at hl; exact hl
          simp only [hs, h4, h6, hg, hl']
          cases f <;> simp [maskTo_eq, Fam.width]
  · cases hb

theorem parseAddr_no_slash (s : Str) (f : Fam) (y : Nat) (h : parseAddr s = some (f, y)) : '/' ∉ s := by
  rcases parseAddr_cases _ _ _ h with ⟨_, h4⟩ | ⟨_, _, h6⟩
  · exact not_mem_of_all (parseV4_chars s y h4) (by decide)
  · exact (parseV6_chars s y h6).2

theorem blockDen_addr (n : Str) (g : Fam) (y : Nat) (hn : parseAddr n = some (g, y)) :
    blockDen n = some (g, y, g.width) := by
  unfold blockDen
  rw [splitOn_eq, Py.splitOn_not_mem _ _ (parseAddr_no_slash n g y hn)]
  simp [hn]

theorem blockDen_cidr (n l : Str) (g : Fam) (y len : Nat) (hn : parseAddr n = some (g, y))
    (hl : parsePrefixW g.width l = some len) : blockDen (n ++ '/' :: l) = some (g, y, len) := by
  have h5 : '/' ∉ l := not_mem_of_all (parsePrefixW_digits _ l len hl).1 (by decide)
  unfold blockDen
  rw [splitOn_eq, Py.splitOn_append_of_not_mem _ _ _ (parseAddr_no_slash n g y hn), Py.splitOn_not_mem _ _ h5]
  simp [hn, hl]

/-- ipMatch on an address and a CIDR block `n/len`, both of any family: `True` exactly when the families are
    equal and the leading `len` bits agree (`strict=False`: host bits of `n` are ignored) -/
theorem ipMatch_cidr (a n l : Str) (f g : Fam) (x y len : Nat) (ha : parseAddr a = some (f, x))
    (hn : parseAddr n = some (g, y)) (hl : parsePrefixW g.width l = some len) :
    ipMatch a (n ++ '/' :: l) = .ok (f == g && sameBlock g.width len x y) := by
  apply ipMatch_eq_spec
  simp [ipSpec, ha, blockDen_cidr n l g y len hn hl]

/-- ipMatch on two address texts of any family: same family and same number -/
theorem ipMatch_addr (a n : Str) (f g : Fam) (x y : Nat) (ha : parseAddr a = some (f, x))
    (hn : parseAddr n = some (g, y)) : ipMatch a n = .ok (f == g && x == y) := by
  rw [← sameBlock_full g.width x y]
  apply ipMatch_eq_spec
  simp [ipSpec, ha, blockDen_addr n g y hn]

/-- ipMatch on a dotted-quad address and a CIDR block `n/len`: membership = the leading `len` bits agree
    (`strict=False`: host bits of `n` are ignored) -/
theorem ipMatch_v4 (a n l : Str) (x y len : Nat)
    (ha : parseV4 a = some x) (hn : parseV4 n = some y) (hl : parsePrefix l = some len) :
    ipMatch a (n ++ '/' :: l) = .ok (sameBlock 32 len x y) := by
  simpa [Fam.width] using ipMatch_cidr a n l .v4 .v4 x y len (parseAddr_v4 a x ha) (parseAddr_v4 n y hn) hl

/-- ipMatch on two dotted-quad addresses: equality of the addresses -/
theorem ipMatch_v4_addr (a n : Str) (x y : Nat) (ha : parseV4 a = some x) (hn : parseV4 n = some y) :
    ipMatch a n = .ok (x == y) := by
  simpa using ipMatch_addr a n .v4 .v4 x y (parseAddr_v4 a x ha) (parseAddr_v4 n y hn)

/-- ipMatch on an IPv6 address and an IPv6 block `n/len` (every text form of either, zones ignored):
    the leading `len` of the 128 bits agree -/
theorem ipMatch_v6 (a n l : Str) (x y len : Nat)
    (ha : parseV6 a = some x) (hn : parseV6 n = some y) (hl : parsePrefix6 l = some len) :
    ipMatch a (n ++ '/' :: l) = .ok (sameBlock 128 len x y) := by
  simpa [Fam.width] using ipMatch_cidr a n l .v6 .v6 x y len (parseAddr_v6 a x ha) (parseAddr_v6 n y hn) hl

/-- ipMatch on two IPv6 address texts: equality of the NUMBERS, whatever the spellings -/
theorem ipMatch_v6_addr (a n : Str) (x y : Nat) (ha : parseV6 a = some x) (hn : parseV6 n = some y) :
    ipMatch a n = .ok (x == y) := by
  simpa using ipMatch_addr a n .v6 .v6 x y (parseAddr_v6 a x ha) (parseAddr_v6 n y hn)

/-- an address of the other family is never in a block (also not an IPv4-mapped IPv6 address in an IPv4 block) -/
theorem ipMatch_mixed (a n l : Str) (f g : Fam) (x y len : Nat) (ha : parseAddr a = some (f, x))
    (hn : parseAddr n = some (g, y)) (hl : parsePrefixW g.width l = some len) (hfg : f ≠ g) :
    ipMatch a (n ++ '/' :: l) = .ok false ∧ ipMatch a n = .ok false := by
  have : (f == g) = false := by simpa using hfg
  rw [ipMatch_cidr a n l f g x y len ha hn hl, ipMatch_addr a n f g x y ha hn, this]
  simp

theorem ipMatch_cases (a b : Str) :
    (parseAddr a = none ∧ ipMatch a b = .err .valueError) ∨ (parseAddr a ≠ none ∧ ∃ r, ipMatch a b = .ok r) := by
  unfold ipMatch
  cases parseAddr a with
  | none => exact Or.inl ⟨rfl, rfl⟩
  | some fx =>
    obtain ⟨f, x⟩ := fx
    refine Or.inr ⟨nofun, ?_⟩
    cases parseNet4 b <;> cases parseNet6 b <;> cases f <;> exact ⟨_, rfl⟩

/-- an unparsable first argument raises (`ipaddress.ip_address` is outside the `try`), and nothing else does -/
theorem ipMatch_raises_iff (a b : Str) : ipMatch a b = .err .valueError ↔ parseAddr a = none := by
  rcases ipMatch_cases a b with ⟨h1, h2⟩ | ⟨h1, r, h2⟩ <;> simp [h1, h2]

theorem ipMatch_bad_address (a b : Str) (h4 : parseV4 a = none) (h6 : parseV6 a = none) :
    ipMatch a b = .err .valueError := by
  rw [ipMatch_raises_iff]; simp [parseAddr, h4, h6]

/-- a pattern that is no network of either family matches nothing (`except ValueError: return ip1 == ip2` compares
    an address object with a `str`) -/
theorem ipMatch_bad_pattern (a b : Str) (f : Fam) (x : Nat) (ha : parseAddr a = some (f, x))
    (h4 : parseNet4 b = none) (h6 : parseNet6 b = none) : ipMatch a b = .ok false := by
  simp [ipMatch, ha, h4, h6]

/-- the model answers for every pair of texts: nothing of `ip_match` is left unmodelled -/
theorem ipMatch_total (a b : Str) : ipMatch a b ≠ .outside := by
  rcases ipMatch_cases a b with ⟨_, h⟩ | ⟨_, r, h⟩ <;> simp [h]

/-! ### IPv6 text forms -/

/-- the 26 letters that `toUpper` changes: six hex digits, which keep their value, and twenty other letters, which
    stay outside (`toLower`: the same for the capitals) -/
theorem hexVal_toUpper_aux : ∀ n, n ≤ 122 → 97 ≤ n → hexVal (Char.ofNat n).toUpper = hexVal (Char.ofNat n) := by
  decide +kernel
theorem hexVal_toLower_aux : ∀ n, n ≤ 90 → 65 ≤ n → hexVal (Char.ofNat n).toLower = hexVal (Char.ofNat n) := by
  decide +kernel

/-- hex digits are read case-insensitively (and no other character becomes a hex digit by changing its case) -/
theorem hexVal_toUpper (c : Char) : hexVal c.toUpper = hexVal c := by
  by_cases h : 'a'.val ≤ c.val ∧ c.val ≤ 'z'.val
  · rw [← Char.ofNat_toNat c]
    exact hexVal_toUpper_aux c.toNat h.2 h.1
  · rw [Char.toUpper, dif_neg h]

theorem hexVal_toLower (c : Char) : hexVal c.toLower = hexVal c := by
  by_cases h : c.val ≥ 'A'.val ∧ c.val ≤ 'Z'.val
  · rw [← Char.ofNat_toNat c]
    exact hexVal_toLower_aux c.toNat h.2 h.1
  · rw [Char.toLower, dif_neg h]

theorem hexDigitsVal_map (f : Char → Char) (hf : ∀ c, hexVal (f c) = hexVal c) (s : Str) (acc : Nat) :
    hexDigitsVal (s.map f) acc = hexDigitsVal s acc := by
  induction s generalizing acc with
  | nil => rfl
  | cons c s ih => simp [hexDigitsVal, hf, ih]

/-- `parseHextet` sees a text only through the values of its hex digits -/
theorem parseHextet_map (f : Char → Char) (hf : ∀ c, hexVal (f c) = hexVal c) (s : Str) :
    parseHextet (s.map f) = parseHextet s := by
  have h1 : (s.map f).all isHexDigit = s.all isHexDigit := by
    simp only [List.all_map, Function.comp_def, isHexDigit, hf]
    rfl
  simp only [parseHextet, h1, List.length_map, hexDigitsVal_map f hf, List.isEmpty_iff, List.map_eq_nil_iff]

theorem parseHextet_toUpper (s : Str) : parseHextet (s.map Char.toUpper) = parseHextet s :=
  parseHextet_map _ hexVal_toUpper s

theorem parseHextet_toLower (s : Str) : parseHextet (s.map Char.toLower) = parseHextet s :=
  parseHextet_map _ hexVal_toLower s

theorem parseHextet_eq_some (s : Str) (v : Nat) :
    parseHextet s = some v ↔ s.all isHexDigit = true ∧ s.length ≤ 4 ∧ s ≠ [] ∧ hexDigitsVal s 0 = v := by
  simp only [parseHextet, Option.ite_none_left_eq_some, Bool.not_eq_true, Bool.not_eq_false', Nat.not_lt, gt_iff_lt,
    List.isEmpty_iff, Option.some.injEq, ne_eq]

theorem parseHextet_zero_cons (s : Str) (hs : s ≠ []) (hl : s.length < 4) :
    parseHextet ('0' :: s) = parseHextet s := by
  have h1 : ¬ (s.length + 1 > 4) := by omega
  have h2 : ¬ (s.length > 4) := by omega
  simp [parseHextet, h1, h2, hs, hexDigitsVal, show isHexDigit '0' = true from rfl,
    show (hexVal '0').getD 0 = 0 from rfl]

/-- a fifth digit is an error even when it is a leading zero -/
theorem parseHextet_five (s : Str) (hl : 4 < s.length) : parseHextet s = none := by
  simp [parseHextet, hl]

theorem hexVal_lt (c : Char) (v : Nat) (h : hexVal c = some v) : v < 16 := by
  simp only [hexVal, Char.le_def, UInt32.le_iff_toNat_le, Bool.and_eq_true, decide_eq_true_eq, Char.toNat] at h
  grind

/-- one more digit `d < b` under a bound of the shape `(acc + 1) * b ^ n` -/
theorem digit_lt {b d acc n r : Nat} (hd : d < b) (h : r < (acc * b + d + 1) * b ^ n) :
    r < (acc + 1) * b ^ (n + 1) := by
  rw [Nat.pow_succ, Nat.mul_comm _ b, ← Nat.mul_assoc]
  exact Nat.lt_of_lt_of_le h (Nat.mul_le_mul_right _ (by rw [Nat.add_mul]; omega))

theorem hexDigitsVal_lt (s : Str) (acc : Nat) : hexDigitsVal s acc < (acc + 1) * 16 ^ s.length := by
  induction s generalizing acc with
  | nil => simp [hexDigitsVal]
  | cons c s ih =>
    refine digit_lt ?_ (ih _)
    cases h : hexVal c with
    | none => decide
    | some v => exact hexVal_lt c v h

theorem parseHextet_lt (s : Str) (v : Nat) (h : parseHextet s = some v) : v < 65536 := by
  obtain ⟨-, hl, -, rfl⟩ := (parseHextet_eq_some s v).1 h
  have := hexDigitsVal_lt s 0
  have : 16 ^ s.length ≤ 16 ^ 4 := Nat.pow_le_pow_right (by decide) hl
  omega

/-! ### parseV6: a 128-bit number -/

/-- a part denotes a 16-bit number, a `.num` part (half of a dotted-quad suffix) by `hp` -/
theorem Part.val_lt (p : Part) (v : Nat) (hp : ∀ w, p = .num w → w < 65536) (h : p.val = some v) : v < 65536 := by
  cases p with
  | txt s => exact parseHextet_lt s v h
  | num w => exact Option.some.inj h ▸ hp w rfl

theorem hextets_lt (ps : List Part) (acc r : Nat) (hs : ∀ w, .num w ∈ ps → w < 65536)
    (h : hextets acc ps = some r) : r < (acc + 1) * 65536 ^ ps.length := by
  induction ps generalizing acc with
  | nil => simp [hextets] at h; subst h; simp
  | cons p ps ih =>
    simp only [hextets] at h
    split at h
    · simp at h
    · rename_i v hv
      exact digit_lt (Part.val_lt p v (fun w e => hs w (by simp [e])) hv)
        (ih _ (fun w hw => hs w (List.mem_cons_of_mem _ hw)) h)

/-- `h`: the parts `ps` are valid and denote the numbers `vs` -/
theorem hextets_eq (ps : List Part) (vs : List Nat) (h : ps.map Part.val = vs.map some) (acc : Nat) :
    hextets acc ps = some (vs.foldl (fun a v => a * 65536 + v) acc) := by
  induction ps generalizing vs acc with
  | nil => cases vs <;> simp_all [hextets]
  | cons p ps ih =>
    cases vs with
    | nil => simp at h
    | cons v vs =>
      simp only [List.map_cons, List.cons.injEq] at h
      simp only [hextets, h.1, List.foldl_cons]
      exact ih vs h.2 _

theorem hextets_append (acc : Nat) (a b : List Part) :
    hextets acc (a ++ b) = (hextets acc a).bind fun x => hextets x b := by
  induction a generalizing acc with
  | nil => rfl
  | cons p a ih =>
    simp only [List.cons_append, hextets]
    split
    · rfl
    · exact ih _

theorem hextets_zeros (k acc : Nat) : hextets acc (List.replicate k (.num 0)) = some (acc * 65536 ^ k) := by
  induction k generalizing acc with
  | zero => simp [hextets]
  | succ k ih => simp [List.replicate_succ, hextets, Part.val, ih, Nat.pow_succ, Nat.mul_assoc, Nat.mul_comm 65536]

theorem breakEmpty_none (m : List Part) (h : ∀ p ∈ m, p.isEmpty = false) : breakEmpty m = (m, none) := by
  induction m with
  | nil => rfl
  | cons p m ih => simp_all [breakEmpty]

theorem breakEmpty_some (h t : List Part) (e : Part) (hh : ∀ p ∈ h, p.isEmpty = false) (he : e.isEmpty = true) :
    breakEmpty (h ++ e :: t) = (h, some t) := by
  induction h with
  | nil => simp [breakEmpty, he]
  | cons p m ih => simp_all [breakEmpty]

theorem exists_first_empty (m : List Part) :
    (∀ p ∈ m, p.isEmpty = false) ∨
      ∃ h e t, m = h ++ e :: t ∧ (∀ p ∈ h, p.isEmpty = false) ∧ e.isEmpty = true := by
  induction m with
  | nil => exact .inl (by simp)
  | cons p m ih =>
    cases hp : p.isEmpty with
    | true => exact .inr ⟨[], p, m, rfl, by simp, hp⟩
    | false =>
      rcases ih with hm | ⟨h, e, t, rfl, hh, he⟩
      · exact .inl (List.forall_mem_cons.2 ⟨hp, hm⟩)
      · exact .inr ⟨p :: h, e, t, rfl, List.forall_mem_cons.2 ⟨hp, hh⟩, he⟩

/-- without `::` : exactly eight non-empty parts -/
theorem parseV6Parts_noSkip (f l : Part) (m : List Part) (x : Nat) (hm : ∀ p ∈ m, p.isEmpty = false) :
    parseV6Parts f m l = some x ↔
      m.length + 2 = 8 ∧ f.isEmpty = false ∧ l.isEmpty = false ∧ hextets 0 (f :: m ++ [l]) = some x := by
  simp only [parseV6Parts, breakEmpty_none m hm, Option.ite_none_left_eq_some, bne_iff_ne, Bool.not_eq_true,
    Decidable.not_not]
  exact ⟨fun h => h.2, fun h => ⟨by omega, h⟩⟩

/-- with `::` (the first empty part `e` of the middle): the parts `hi` before it and `lo` after it, an empty
    first or last part dropped, are read with as many zero groups between them as make up eight -/
theorem parseV6Parts_skip (f l e : Part) (h t hi lo : List Part) (x : Nat) (hh : ∀ p ∈ h, p.isEmpty = false)
    (he : e.isEmpty = true) (hhi : hi = if f.isEmpty then [] else f :: h)
    (hlo : lo = if l.isEmpty then [] else t ++ [l]) :
    parseV6Parts f (h ++ e :: t) l = some x ↔
      (h ++ e :: t).length + 2 ≤ 9 ∧ (∀ p ∈ t, p.isEmpty = false) ∧ (f.isEmpty = true → h = []) ∧
        (l.isEmpty = true → t = []) ∧ hi.length + lo.length ≤ 7 ∧
        hextets 0 (hi ++ List.replicate (8 - (hi.length + lo.length)) (.num 0) ++ lo) = some x := by
  simp only [parseV6Parts, breakEmpty_some h t e hh he, ← hhi, ← hlo, hextets_append, hextets_zeros,
    Option.ite_none_left_eq_some]
  cases hextets 0 hi <;>
    simp only [Option.bind_none, Option.bind_some, gt_iff_lt, Nat.not_lt, Bool.not_eq_true, List.any_eq_false,
      Bool.and_eq_true, Bool.not_eq_eq_eq_not, Bool.not_true, not_and, List.isEmpty_eq_false_iff, ne_eq,
      Decidable.not_not, reduceCtorEq, and_false]

theorem parseV6Parts_lt (f : Part) (m : List Part) (l : Part) (x : Nat)
    (hs : ∀ w, .num w ∈ f :: m ++ [l] → w < 65536) (h : parseV6Parts f m l = some x) : x < 2 ^ 128 := by
  -- either way the number is read off eight parts
  have key : ∀ ps : List Part, (∀ w, .num w ∈ ps → w < 65536) → ps.length = 8 → hextets 0 ps = some x →
      x < 2 ^ 128 := by
    intro ps hps h8 hx
    simpa [h8] using hextets_lt ps 0 x hps hx
  rcases exists_first_empty m with hm | ⟨hd, e, t, rfl, hh, he⟩
  · obtain ⟨h8, -, -, hx⟩ := (parseV6Parts_noSkip f l m x hm).1 h
    exact key _ hs (by simp; omega) hx
  · obtain ⟨-, -, -, -, h7, hx⟩ := (parseV6Parts_skip f l e hd t _ _ x hh he rfl rfl).1 h
    refine key _ (fun w hw => ?_) (by simp; omega) hx
    simp only [List.mem_append, List.mem_ite_nil_left, List.mem_replicate, List.mem_cons, List.not_mem_nil,
      or_false] at hw hs
    rcases hw with (⟨-, hw | hw⟩ | ⟨-, hw⟩) | ⟨-, hw | hw⟩
    · exact hs w (by simp [hw])
    · exact hs w (by simp [hw])
    · cases hw; decide
    · exact hs w (by simp [hw])
    · exact hs w (by simp [hw])

theorem ends_cons_append (p : Part) (m : List Part) (q : Part) : ends (p :: m ++ [q]) = some (p, m, q) := by
  induction m generalizing p with
  | nil => rfl
  | cons r m ih =>
    simp only [List.cons_append] at ih ⊢
    rw [ends, ih]

theorem ends_iff (ps : List Part) (f : Part) (m : List Part) (l : Part) :
    ends ps = some (f, m, l) ↔ ps = f :: m ++ [l] := by
  refine ⟨fun h => ?_, fun h => h ▸ ends_cons_append f m l⟩
  match ps with
  | [] | [_] => simp [ends] at h
  | p :: q :: r =>
    obtain ⟨m', l', e⟩ := exists_snoc (q :: r) (by simp)
    rw [e, ← List.cons_append, ends_cons_append] at h
    simp only [Option.some.injEq, Prod.mk.injEq] at h
    rw [e, h.1, h.2.1, h.2.2]; rfl

/-- `parseV6Core` on a text with the ':'-pieces `a`, `mid` (at least one), `z`: the pieces are the parts, a last
    piece with a dot is an IPv4 address and makes two -/
theorem parseV6Core_of_split (s a : Str) (mid : List Str) (z : Str) (hps : Py.splitOn ':' s = a :: mid ++ [z])
    (hmid : mid ≠ []) :
    parseV6Core s =
      if '.' ∈ z then
        (parseV4 z).bind fun v =>
          parseV6Parts (.txt a) (mid.map .txt ++ [.num (v / 65536 % 65536)]) (.num (v % 65536))
      else parseV6Parts (.txt a) (mid.map .txt) (.txt z) := by
  have hs : s ≠ [] := by rintro rfl; simp [Py.splitOn] at hps
  have h3 : ¬ (a :: mid ++ [z]).length < 3 := by cases mid <;> simp_all
  have e1 := fun v => ends_cons_append (.txt a) (mid.map .txt ++ [.num (v / 65536 % 65536)]) (.num (v % 65536))
  simp only [List.cons_append, List.append_assoc, List.nil_append] at e1
  simp only [parseV6Core, List.isEmpty_iff, hs, if_false, splitOn_eq, hps, h3, List.getLast?_concat, Option.getD_some,
    List.dropLast_concat, List.contains_iff_mem]
  by_cases hdot : '.' ∈ z
  · simp only [hdot, if_true]
    cases parseV4 z with
    | none => rfl
    | some v => simp only [Option.bind_some, List.map_cons, List.cons_append, e1]
  · simp only [hdot, if_false, List.map_append, List.map_cons, List.map_nil, ends_cons_append]

theorem parseV6Core_short (s : Str) (h : (Py.splitOn ':' s).length < 3) : parseV6Core s = none := by
  simp [parseV6Core, splitOn_eq, h]

theorem parseV6Core_lt (s : Str) (x : Nat) (h : parseV6Core s = some x) : x < 2 ^ 128 := by
  have h3 : ¬ (Py.splitOn ':' s).length < 3 := fun h3 => by simp [parseV6Core_short s h3] at h
  obtain ⟨a, tl, hps⟩ := List.exists_cons_of_ne_nil (Py.splitOn_ne_nil ':' s)
  obtain ⟨mid, z, rfl⟩ := exists_snoc tl (by rintro rfl; simp [hps] at h3)
  rw [parseV6Core_of_split s a mid z hps (by rintro rfl; simp [hps] at h3)] at h
  split at h
  · obtain ⟨v, -, h⟩ := Option.bind_eq_some_iff.1 h
    refine parseV6Parts_lt _ _ _ x ?_ h
    simp
    omega
  · exact parseV6Parts_lt _ _ _ x (by simp) h

theorem parseV6_lt (s : Str) (x : Nat) (h : parseV6 s = some x) : x < 2 ^ 128 := by
  obtain ⟨-, addr, -, hc⟩ := (parseV6_eq_some s x).1 h
  exact parseV6Core_lt _ x hc

/-! ### parseV6 reads the RFC 4291 text forms: `h:h:h:h:h:h:h:h` and `h:…::…:h` -/

/-- the text `h1:h2:…:hn` -/
def joinColon : List Str → Str
  | [] => []
  | [h] => h
  | h :: g :: hs => h ++ ':' :: joinColon (g :: hs)

/-- the number written by a sequence of 16-bit groups, most significant first -/
def groupsVal (vs : List Nat) : Nat := vs.foldl (fun acc v => acc * 65536 + v) 0

theorem joinColon_eq (hs : List Str) : joinColon hs = Py.join [':'] hs := by
  fun_induction joinColon hs <;> simp [Py.join, *]

/-- the hextet texts `hs` are valid and denote the numbers `vs` -/
def Hextets (hs : List Str) (vs : List Nat) : Prop := hs.map parseHextet = vs.map some

theorem Hextets.length {hs : List Str} {vs : List Nat} (h : Hextets hs vs) : hs.length = vs.length := by
  have := congrArg List.length h
  simpa using this

theorem Hextets.mem {hs : List Str} {vs : List Nat} (h : Hextets hs vs) (w : Str) (hw : w ∈ hs) :
    w.all isHexDigit = true ∧ w ≠ [] := by
  have : parseHextet w ∈ vs.map some := by rw [← h]; exact List.mem_map_of_mem hw
  obtain ⟨v, -, hv⟩ := List.mem_map.1 this
  have := (parseHextet_eq_some w v).1 hv.symm
  exact ⟨this.1, this.2.2.1⟩

theorem Hextets.not_mem {hs : List Str} {vs : List Nat} (h : Hextets hs vs) (c : Char) (hc : isHexDigit c = false)
    (w : Str) (hw : w ∈ hs) : c ∉ w :=
  not_mem_of_all (h.mem w hw).1 hc

theorem Hextets.pieces {hs : List Str} {vs : List Nat} (h : Hextets hs vs) :
    Py.splitOn ':' (joinColon hs) = if hs = [] then [[]] else hs :=
  joinColon_eq hs ▸ Py.splitOn_join ':' hs (h.not_mem ':' (by decide))

theorem Hextets.joinColon_chars {hs : List Str} {vs : List Nat} (h : Hextets hs vs) :
    (joinColon hs).all (fun c => isHexDigit c || c == ':') = true := by
  rw [← Py.all_of_splitOn, h.pieces]
  split
  · rfl
  · exact List.all_eq_true.2 fun w hw => (h.mem w hw).1

theorem txt_nonempty {hs : List Str} {vs : List Nat} (h : Hextets hs vs) :
    ∀ p ∈ hs.map Part.txt, p.isEmpty = false := by
  intro p hp
  obtain ⟨w, hw, rfl⟩ := List.mem_map.1 hp
  simpa [Part.isEmpty] using (h.mem w hw).2

theorem parseV6_plain (s : Str) (h1 : '/' ∉ s) (h2 : '%' ∉ s) : parseV6 s = parseV6Core s := by
  simp [parseV6, h1, splitScope, splitOn_eq, Py.splitOn_not_mem _ _ h2]

theorem Hextets.val_txt {hs : List Str} {vs : List Nat} (h : Hextets hs vs) :
    (hs.map Part.txt).map Part.val = vs.map some := by
  rw [List.map_map]; exact h

/-- the full form: eight valid hextets separated by colons denote the number they write, 16 bits each -/
theorem parseV6_full (hs : List Str) (vs : List Nat) (hv : Hextets hs vs) (hlen : hs.length = 8) :
    parseV6 (joinColon hs) = some (groupsVal vs) := by
  have hch := hv.joinColon_chars
  rw [parseV6_plain _ (not_mem_of_all hch (by decide)) (not_mem_of_all hch (by decide))]
  obtain ⟨h0, tl, rfl⟩ := List.exists_cons_of_ne_nil (l := hs) (by rintro rfl; simp at hlen)
  obtain ⟨mid, h7, rfl⟩ := exists_snoc tl (by rintro rfl; simp at hlen)
  have hnon := txt_nonempty hv
  rw [parseV6Core_of_split _ h0 mid h7 (by simpa using hv.pieces) (by rintro rfl; simp at hlen),
    if_neg (hv.not_mem '.' (by decide) h7 (by simp)),
    parseV6Parts_noSkip _ _ _ _ (fun p hp => hnon p (by simp [hp]))]
  exact ⟨by simp at hlen ⊢; omega, hnon _ (by simp), hnon _ (by simp), hextets_eq _ vs (by simpa using hv.val_txt) 0⟩

/-- the pieces `a :: r` of `h1:…:hn` seen as the parts before a `::`: the hextets, or, when none is written, one
    empty part, which the parser drops -/
theorem txt_lead {hs : List Str} {vs : List Nat} (hv : Hextets hs vs) :
    ∃ a r, Py.splitOn ':' (joinColon hs) = a :: r ∧ r.length = hs.length - 1 ∧
      (∀ p ∈ r.map Part.txt, p.isEmpty = false) ∧ ((Part.txt a).isEmpty = true → r.map Part.txt = []) ∧
      hs.map Part.txt = if (Part.txt a).isEmpty = true then [] else .txt a :: r.map .txt := by
  have hne := txt_nonempty hv
  rw [hv.pieces]
  cases hs with
  | nil => exact ⟨[], [], rfl, rfl, by simp, fun _ => rfl, rfl⟩
  | cons p hs' =>
    have hp : (Part.txt p).isEmpty = false := hne _ (by simp)
    exact ⟨p, hs', rfl, rfl, fun q hq => hne q (by simp [hq]), by simp [hp], by simp [hp]⟩

/-- the same for the pieces `r ++ [z]` seen as the parts after a `::` -/
theorem txt_trail {ls : List Str} {vs : List Nat} (hv : Hextets ls vs) :
    ∃ r z, Py.splitOn ':' (joinColon ls) = r ++ [z] ∧ r.length = ls.length - 1 ∧ '.' ∉ z ∧
      (∀ p ∈ r.map Part.txt, p.isEmpty = false) ∧ ((Part.txt z).isEmpty = true → r.map Part.txt = []) ∧
      ls.map Part.txt = if (Part.txt z).isEmpty = true then [] else r.map .txt ++ [.txt z] := by
  have hne := txt_nonempty hv
  rw [hv.pieces]
  rcases List.eq_nil_or_concat ls with rfl | ⟨ls', q, rfl⟩
  · exact ⟨[], [], rfl, rfl, by simp, by simp, fun _ => rfl, rfl⟩
  · rw [List.concat_eq_append] at *
    simp only [List.map_append, List.mem_append, List.map_cons, List.map_nil, List.mem_singleton] at hne
    have hq : (Part.txt q).isEmpty = false := hne _ (.inr rfl)
    exact ⟨ls', q, if_neg (by simp), by simp, hv.not_mem '.' (by decide) q (by simp), fun p hp => hne p (.inl hp),
      by simp [hq], by simp [hq]⟩

/-- the compressed form: `::` stands for the zero groups that make up eight; it may be at the start, in the
    middle or at the end, at most 7 groups are written. (`groupsVal (vh ++ zeros ++ vl)` is the number the full
    form of the same eight groups denotes, `parseV6_full`.) -/
theorem parseV6_compressed (hs ls : List Str) (vh vl : List Nat) (hh : Hextets hs vh) (hl : Hextets ls vl)
    (hlen : hs.length + ls.length ≤ 7) :
    parseV6 (joinColon hs ++ ':' :: ':' :: joinColon ls) =
      some (groupsVal (vh ++ List.replicate (8 - (hs.length + ls.length)) 0 ++ vl)) := by
  have hch : (joinColon hs ++ ':' :: ':' :: joinColon ls).all (fun c => isHexDigit c || c == ':') = true := by
    simp [hh.joinColon_chars, hl.joinColon_chars]
  rw [parseV6_plain _ (not_mem_of_all hch (by decide)) (not_mem_of_all hch (by decide))]
  obtain ⟨a, r, ha, hra, hr, har, hhi⟩ := txt_lead hh
  obtain ⟨r', z, hz, hrz, hdot, hr', hzr, hlo⟩ := txt_trail hl
  have hps : Py.splitOn ':' (joinColon hs ++ ':' :: ':' :: joinColon ls) = a :: (r ++ [] :: r') ++ [z] := by
    rw [Py.splitOn_append_sep, Py.splitOn_cons, if_pos rfl, ha, hz]; simp
  rw [parseV6Core_of_split _ a _ z hps (by simp), if_neg hdot, List.map_append, List.map_cons,
    parseV6Parts_skip _ _ (.txt []) _ _ _ _ _ hr rfl hhi hlo]
  refine ⟨by simp; omega, hr', har, hzr, by simpa using hlen, ?_⟩
  simp only [List.length_map]
  exact hextets_eq _ _ (by simp [hh.val_txt, hl.val_txt, Part.val]) 0

/-! ### consequences: spellings of one address; zones -/

theorem Hextets.append {a b : List Str} {va vb : List Nat} (ha : Hextets a va) (hb : Hextets b vb) :
    Hextets (a ++ b) (va ++ vb) := by
  unfold Hextets at *; simp [ha, hb]

theorem Hextets.zeros (k : Nat) : Hextets (List.replicate k ['0']) (List.replicate k 0) := by
  have : parseHextet ['0'] = some 0 := by decide
  unfold Hextets; simp [List.map_replicate, this]

/-- `::` abbreviates the `0` groups written out -/
theorem parseV6_compressed_eq_full (hs ls : List Str) (vh vl : List Nat) (hh : Hextets hs vh) (hl : Hextets ls vl)
    (hlen : hs.length + ls.length ≤ 7) :
    parseV6 (joinColon hs ++ ':' :: ':' :: joinColon ls) =
      parseV6 (joinColon (hs ++ List.replicate (8 - (hs.length + ls.length)) ['0'] ++ ls)) := by
  rw [parseV6_compressed hs ls vh vl hh hl hlen,
    parseV6_full _ _ ((hh.append (Hextets.zeros _)).append hl) (by simp; omega)]

/-- the spelling of the groups (letter case, leading zeros, …) does not matter -/
theorem parseV6_full_congr (hs hs' : List Str) (vs : List Nat) (h : Hextets hs vs) (h' : Hextets hs' vs)
    (hlen : hs.length = 8) : parseV6 (joinColon hs) = parseV6 (joinColon hs') := by
  rw [parseV6_full hs vs h hlen, parseV6_full hs' vs h' (by rw [h'.length, ← h.length, hlen])]

theorem Hextets.map {hs : List Str} {vs : List Nat} (h : Hextets hs vs) (f : Char → Char)
    (hf : ∀ c, hexVal (f c) = hexVal c) : Hextets (hs.map (List.map f)) vs := by
  unfold Hextets at *
  rw [← h, List.map_map]
  exact List.map_congr_left fun w _ => parseHextet_map f hf w

theorem Hextets.upper {hs : List Str} {vs : List Nat} (h : Hextets hs vs) :
    Hextets (hs.map (List.map Char.toUpper)) vs := h.map _ hexVal_toUpper

theorem Hextets.lower {hs : List Str} {vs : List Nat} (h : Hextets hs vs) :
    Hextets (hs.map (List.map Char.toLower)) vs := h.map _ hexVal_toLower

theorem parseV6_upper (hs ls : List Str) (vh vl : List Nat) (hh : Hextets hs vh) (hl : Hextets ls vl) :
    (hs.length = 8 → parseV6 (joinColon (hs.map (List.map Char.toUpper))) = parseV6 (joinColon hs)) ∧
    (hs.length + ls.length ≤ 7 →
      parseV6 (joinColon (hs.map (List.map Char.toUpper)) ++ ':' :: ':' :: joinColon (ls.map (List.map Char.toUpper))) =
        parseV6 (joinColon hs ++ ':' :: ':' :: joinColon ls)) := by
  refine ⟨fun h8 => ?_, fun h7 => ?_⟩
  · exact parseV6_full_congr _ _ vh hh.upper hh (by simpa using h8)
  · rw [parseV6_compressed _ _ vh vl hh.upper hl.upper (by simpa using h7),
      parseV6_compressed hs ls vh vl hh hl h7]
    simp

/-- a zone (`%eth0`) is accepted after an address and plays no part in its number -/
theorem parseV6_zone (s z : Str) (hs : '%' ∉ s) (hz : z ≠ []) (hz1 : '%' ∉ z) (hz2 : '/' ∉ z) :
    parseV6 (s ++ '%' :: z) = parseV6 s := by
  unfold parseV6
  have hc : (s ++ '%' :: z).contains '/' = s.contains '/' := by
    have : ¬ ('/' = '%') := by decide
    simp [hz2, this]
  rw [hc]
  split
  · rfl
  · simp [splitScope, splitOn_eq, Py.splitOn_append_of_not_mem _ _ _ hs, Py.splitOn_not_mem _ _ hz1, Py.splitOn_not_mem _ _ hs, hz]

theorem parseV6_zone_empty (s : Str) (hs : '%' ∉ s) : parseV6 (s ++ ['%']) = none := by
  unfold parseV6
  split
  · rfl
  · simp [splitScope, splitOn_eq, Py.splitOn_append_of_not_mem _ _ _ hs, Py.splitOn]

theorem parseV6_zone_twice (s z z' : Str) (hs : '%' ∉ s) (hz : '%' ∉ z) :
    parseV6 (s ++ '%' :: (z ++ '%' :: z')) = none := by
  unfold parseV6
  split
  · rfl
  · obtain ⟨w, ws, h⟩ := List.exists_cons_of_ne_nil (Py.splitOn_ne_nil '%' z')
    simp [splitScope, splitOn_eq, Py.splitOn_append_of_not_mem _ _ _ hs, Py.splitOn_append_of_not_mem _ _ _ hz, h]

example : parseV4 "192.168.2.123".toList = some 3232236155 := by eval_vector
example : ipMatch "192.168.2.123".toList "192.168.2.0/24".toList = .ok true := by eval_vector
example : ipMatch "192.168.3.1".toList "192.168.2.0/24".toList = .ok false := by eval_vector
example : parseV6 "::".toList = some 0 := by eval_vector
example : parseV6 "::1".toList = some 1 := by eval_vector
example : parseV6 "1::".toList = some (2 ^ 112) := by eval_vector
example : parseV6 "2001:db8::1".toList = some 0x20010db8000000000000000000000001 := by eval_vector
example : parseV6 "2001:DB8:0:0:0:0:0:1".toList = parseV6 "2001:db8::1".toList := by eval_vector
example : parseV6 "2001:0db8:0000:0000:0000:0000:0000:0001".toList = parseV6 "2001:db8::1".toList := by eval_vector
example : parseV6 "::ffff:1.2.3.4".toList = some 0xffff01020304 := by eval_vector
example : parseV6 "::ffff:1.2.3.4".toList = parseV6 "::ffff:102:304".toList := by eval_vector
example : parseV6 "fe80::1%eth0".toList = parseV6 "fe80::1".toList := by eval_vector
example : parseV6 "1:2:3:4:5:6:7::".toList = parseV6 "1:2:3:4:5:6:7:0".toList := by eval_vector
example : parseV6 ":::".toList = none := by eval_vector
example : parseV6 "1::2::3".toList = none := by eval_vector
example : parseV6 "12345::".toList = none := by eval_vector
example : parseV6 "g::".toList = none := by eval_vector
example : parseV6 "::%".toList = none := by eval_vector
example : parseV6 "::1%a%b".toList = none := by eval_vector
example : parseV6 "1:2:3:4:5:6:7:8:9".toList = none := by eval_vector
example : parseV6 "1::3:4:5:6:7:8:9".toList = none := by eval_vector
example : parseV6 ":1:2:3:4:5:6:7".toList = none := by eval_vector
example : parseV6 "1:2:3:4:5:6:7:".toList = none := by eval_vector
example : parseV6 "::1/64".toList = none := by eval_vector
example : parseV6 "::01.2.3.4".toList = none := by eval_vector
example : parseV6 "1.2.3.4".toList = none := by eval_vector
example : Hextets ["2001".toList, "db8".toList] [0x2001, 0xdb8] := by unfold Hextets; eval_vector
example : joinColon ["2001".toList, "db8".toList] ++ ':' :: ':' :: joinColon ["1".toList] = "2001:db8::1".toList := by
  eval_vector

example : ipMatch "2001:db8::1".toList "2001:DB8:0:0:0:0:0:1".toList = .ok true := by eval_vector
example : ipMatch "2001:db8:0:1::9".toList "2001:db8:0:1::/64".toList = .ok true := by eval_vector
example : ipMatch "2001:db8:0:2::9".toList "2001:db8:0:1::/64".toList = .ok false := by eval_vector
example : ipMatch "2001:db8:0:1::9".toList "2001:db8:0:1:ffff::5/64".toList = .ok true := by eval_vector
example : ipMatch "fe80::1%eth0".toList "fe80::%eth1/10".toList = .ok true := by eval_vector
example : ipMatch "2001:db8::1".toList "::/0".toList = .ok true := by eval_vector
example : ipMatch "10.0.0.1".toList "::/0".toList = .ok false := by eval_vector
example : ipMatch "::ffff:10.0.0.1".toList "10.0.0.0/8".toList = .ok false := by eval_vector
example : ipMatch "::1".toList "::1/129".toList = .ok false := by eval_vector
example : ipMatch "::1".toList "::1/ 64".toList = .ok false := by eval_vector
example : ipMatch "::1".toList "::1/64/64".toList = .ok false := by eval_vector
example : ipMatch "::1".toList "::1/".toList = .ok false := by eval_vector
example : ipMatch "::1".toList "::1/ffff::".toList = .ok false := by eval_vector
example : ipMatch ":::".toList "::/0".toList = .err .valueError := by eval_vector
example : ipMatch "10.1.2.3".toList "10.1.0.0/255.255.0.0".toList = .ok true := by eval_vector
example : ipMatch "10.1.2.3".toList "10.1.0.0/0.0.255.255".toList = .ok true := by eval_vector
example : ipMatch "10.1.2.3".toList "10.1.0.0/255.0.255.0".toList = .ok false := by eval_vector
example : ipSpec "2001:db8::1".toList "2001:DB8::/32".toList = some true := by eval_vector
example : ipSpec "10.0.0.1".toList "2001:DB8::/32".toList = some false := by eval_vector
example : ipSpec "2001:db8::1".toList "2001:DB8::/129".toList = none := by eval_vector

/-! ### the dotted-quad suffix -/

theorem parseOctet_le (w : Str) (v : Nat) (h : parseOctet w = some v) : v ≤ 255 := by
  obtain ⟨-, -, -, -, h255, rfl⟩ := (parseOctet_eq_some w v).1 h
  exact h255

theorem parseV4_lt (s : Str) (v : Nat) (h : parseV4 s = some v) : v < 2 ^ 32 ∧ '.' ∈ s := by
  unfold parseV4 at h
  split at h
  · next a b c d heq =>
    split at h
    · next va vb vc vd ha hb hc hd =>
      refine ⟨?_, Decidable.byContradiction fun hn => ?_⟩
      · have := parseOctet_le _ _ ha
        have := parseOctet_le _ _ hb
        have := parseOctet_le _ _ hc
        have := parseOctet_le _ _ hd
        simp at h
        omega
      · rw [splitOn_eq, Py.splitOn_not_mem _ _ hn] at heq
        simp at heq
    · simp at h
  · simp at h

/-- the IPv4-mapped form `::ffff:a.b.c.d` denotes `0xffff` followed by the 32 bits of the IPv4 address
    (it stays an IPv6 address: `ipMatch_mixed`) -/
theorem parseV6_mapped (d : Str) (v : Nat) (h : parseV4 d = some v) :
    parseV6 ("::ffff:".toList ++ d) = some (0xffff * 2 ^ 32 + v) := by
  have hc := parseV4_chars d v h
  have h1 : ':' ∉ d := not_mem_of_all hc (by decide)
  have h2 : '/' ∉ d := not_mem_of_all hc (by decide)
  have h3 : '%' ∉ d := not_mem_of_all hc (by decide)
  obtain ⟨hlt, hdot⟩ := parseV4_lt d v h
  rw [parseV6_plain _ (by simp [h2]) (by simp [h3])]
  have hsp : Py.splitOn ':' ("::ffff:".toList ++ d) = [] :: [[], "ffff".toList] ++ [d] := by
    simp [Py.splitOn, Py.splitOn_not_mem _ _ h1]
  rw [parseV6Core_of_split _ _ _ _ hsp (by simp), if_pos hdot, h, Option.bind_some]
  have hf : parseHextet ['f', 'f', 'f', 'f'] = some 65535 := by decide
  simp [parseV6Parts, breakEmpty, Part.isEmpty, hextets, Part.val, hf]
  omega

example : parseV6 "::ffff:10.0.0.1".toList = some (0xffff * 2 ^ 32 + 167772161) := by eval_vector

end Casbin.C13
