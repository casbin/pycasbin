import CasbinV.Model.Builtin
/-!
# C13 — executable specifications (what the property says), core Lean only

A pattern language is a reader from the pattern text to tokens and a denotation of the tokens: `tokenize` / `den` for
glob (every text is a pattern), `tokVar` / `denK` for keyMatch2/3/5 (`docTok2`, `tok3`, `tok5`; `none` = not of the
documented form). The binding functions (keyMatch4, keyGet2, keyGet3) narrow the documented form by `detForm`, under
which the match is unique, and read the bindings off `capsOf`. keyMatch / keyGet: `*` = any remainder. ipMatch:
equality of the leading `len` bits.
-/
namespace Casbin.Builtin.Spec
open Casbin.Builtin

/-! ## keyMatch / keyGet -/

/-- text before the first `*` -/
def beforeStar : Str → Str
  | [] => []
  | c :: s => if c = '*' then [] else c :: beforeStar s

def keyMatchSpec (k p : Str) : Bool :=
  if p.contains '*' then (beforeStar p).isPrefixOf k else k == p

def keyGetSpec (k p : Str) : Str :=
  if p.contains '*' && (beforeStar p).isPrefixOf k then k.drop (beforeStar p).length else []

/-! ## glob -/

/-- a class item: `lo-hi` (a single character is `c-c`) -/
abbrev Item := Char × Char

def inItems (t : Char) (items : List Item) : Bool := items.any (fun it => it.1 ≤ t && t ≤ it.2)

inductive GTok
  | lit (c : Char)
  | any1
  | star
  | cls (neg : Bool) (items : List Item)
  /-- a class that ends in a dangling backslash: matches nothing -/
  | bad
  deriving Repr, DecidableEq

/-- one item `c` or `c-c2` (`c2` possibly escaped); a `-` that is last or directly before `]` is an ordinary member -/
def itemStep (k : Str → Option (List Item × Str)) (c : Char) (p : Str) : Option (List Item × Str) :=
  match p with
  | d :: c2 :: p2 =>
    if d = '-' then
      if c2 = ']' then (k p).map (fun r => ((c, c) :: r.1, r.2))
      else if c2 = '\\' then
        (match p2 with
         | [] => none
         | c2' :: p3 => (k p3).map (fun r => ((c, c2') :: r.1, r.2)))
      else (k p2).map (fun r => ((c, c2) :: r.1, r.2))
    else (k p).map (fun r => ((c, c) :: r.1, r.2))
  | _ => (k p).map (fun r => ((c, c) :: r.1, r.2))

/-- the items of a class body up to the closing `]` (or the end of the pattern); `none` = dangling backslash -/
def classItems : Nat → Str → Option (List Item × Str)
  | 0, _ => none
  | _ + 1, [] => some ([], [])
  | fuel + 1, c :: p =>
    if c = ']' then some ([], p)
    else if c = '\\' then
      (match p with
       | [] => none
       | c' :: p' => itemStep (classItems fuel) c' p')
    else itemStep (classItems fuel) c p

/-- a class after its `[`: negation flag, items, rest of the pattern -/
def parseClass (p : Str) : Option (Bool × List Item × Str) :=
  match p with
  | [] => none
  | c :: p' =>
    let negate := c == '!' || c == '^'
    let body := if negate then p' else p
    (classItems (body.length + 1) body).map (fun r => (negate, r.1, r.2))

/-! the model's `range_match` loop is this parser followed by the membership test; so the rest it returns is
    the rest the model's loop returns, and its length bound (`rangeLoop_le`) carries over -/

theorem char_eq_range (c t : Char) : (c == t) = (decide (c ≤ t) && decide (t ≤ c)) := by
  rw [Bool.eq_iff_iff]
  simpa using ⟨fun h => h ▸ ⟨Char.le_refl _, Char.le_refl _⟩, fun h => Char.le_antisymm h.1 h.2⟩

theorem inItems_cons (t a b : Char) (its : List Item) :
    inItems t ((a, b) :: its) = ((decide (a ≤ t) && decide (t ≤ b)) || inItems t its) := by
  simp [inItems]

theorem rangeStep_items (t : Char) (k : Str → Bool → Option (Bool × Str)) (k' : Str → Option (List Item × Str))
    (hk : ∀ q o, k q o = (k' q).map (fun r => (o || inItems t r.1, r.2))) (ok : Bool) (c : Char) (p : Str) :
    rangeStep t k ok c p = (itemStep k' c p).map (fun r => (ok || inItems t r.1, r.2)) := by
  fun_cases itemStep k' c p
  case case2 => simp [rangeStep]
  all_goals simp only [rangeStep, ↓reduceIte, Option.map_map, Function.comp_def, inItems_cons, char_eq_range,
    Bool.or_assoc, *]

theorem rangeLoop_items (t : Char) (fuel : Nat) (p : Str) (ok : Bool) :
    rangeLoop t fuel p ok = (classItems fuel p).map (fun r => (ok || inItems t r.1, r.2)) := by
  induction fuel generalizing p ok with
  | zero => simp [rangeLoop, classItems]
  | succ fuel ih =>
    cases p with
    | nil => simp [rangeLoop, classItems, inItems]
    | cons c p =>
      simp only [rangeLoop, classItems]
      split
      · simp [inItems]
      · split
        · rcases p with _ | ⟨c', p'⟩
          · simp
          · exact rangeStep_items t _ _ ih ok c' p'
        · exact rangeStep_items t _ _ ih ok c p

theorem classItems_le (fuel : Nat) (p : Str) (its : List Item) (r : Str)
    (h : classItems fuel p = some (its, r)) : r.length ≤ p.length :=
  rangeLoop_le 'a' fuel p false _ r (by rw [rangeLoop_items, h]; rfl)

theorem parseClass_le (p : Str) (n : Bool) (its : List Item) (r : Str)
    (h : parseClass p = some (n, its, r)) : r.length ≤ p.length := by
  cases p with
  | nil => simp [parseClass] at h
  | cons c p' =>
    simp only [parseClass, Option.map_eq_some_iff] at h
    obtain ⟨⟨a, b⟩, h1, h2⟩ := h
    have := classItems_le _ _ _ _ h1
    simp at h2; obtain ⟨_, _, rfl⟩ := h2
    split at this <;> simp_all <;> omega

def tokenize : Str → List GTok
  | [] => []
  | '?' :: p => .any1 :: tokenize p
  | '*' :: p => .star :: tokenize p
  | '[' :: p =>
    (match _h : parseClass p with
     | none => [.bad]
     | some (neg, items, rest) => .cls neg items :: tokenize rest)
  | '\\' :: [] => [.lit '\\']
  | '\\' :: e :: p => .lit e :: tokenize p
  | c :: p => .lit c :: tokenize p
termination_by p => p.length
decreasing_by
  all_goals simp_wf
  all_goals (try omega)
  have := parseClass_le _ _ _ _ _h; omega

/-- the denotation, executable: `*` = any run of non-'/' characters, `?` / a class = one non-'/' character -/
def den : List GTok → Str → Bool
  | [], s => s.isEmpty
  | .lit c :: ts, s => (match s with | [] => false | x :: s' => x == c && den ts s')
  | .any1 :: ts, s => (match s with | [] => false | x :: s' => x != '/' && den ts s')
  | .cls neg items :: ts, s =>
    (match s with | [] => false | x :: s' => x != '/' && (inItems x items != neg) && den ts s')
  | .bad :: _, _ => false
  | .star :: ts, s => den ts s || (match s with | [] => false | x :: s' => x != '/' && den (.star :: ts) s')
termination_by ts s => (ts.length, s.length)

def globSpec (p s : Str) : Bool := den (tokenize p) s

/-! ## keyMatch2 / 3 / 5 -/

inductive KTok
  | lit (c : Char)
  | star
  | var
  deriving Repr, DecidableEq

/-- `k s ∨ k (tail s) ∨ …` : any split -/
def anySuffix (k : Str → Bool) : Str → Bool
  | [] => k []
  | c :: s => k (c :: s) || anySuffix k s

/-- `k` after a (possibly empty) run of non-'/' characters -/
def anyRun (k : Str → Bool) : Str → Bool
  | [] => k []
  | c :: s => k (c :: s) || (c != '/' && anyRun k s)

def denK : List KTok → Str → Bool
  | [], s => s.isEmpty
  | .lit c :: ts, s => (match s with | [] => false | x :: s' => x == c && denK ts s')
  | .star :: ts, s => anySuffix (denK ts) s
  | .var :: ts, s => (match s with | [] => false | x :: s' => x != '/' && anyRun (denK ts) s')

/-- the documented form, generic in the variable syntax (`varLen` = length of a variable at the head, the same
    function the model's `re.sub` scanner uses; `okVar` = extra condition on the variable's text): `/*`, variables,
    and literal characters that are not special to `re`. `none` = not of the documented form. -/
def tokVar (varLen : Str → Option Nat) (okVar : Str → Bool) : Nat → Str → Option (List KTok)
  | 0, [] => some []
  | _ + 1, [] => none
  | n + 1, _ :: s => tokVar varLen okVar n s
  | 0, '/' :: '*' :: r => (tokVar varLen okVar 0 r).map (fun ts => .lit '/' :: .star :: ts)
  | 0, c :: s =>
    match varLen (c :: s) with
    | some (n + 1) =>
      if okVar ((c :: s).take (n + 1)) then (tokVar varLen okVar n s).map (fun ts => .var :: ts) else none
    | _ => if isMeta c then none else (tokVar varLen okVar 0 s).map (fun ts => .lit c :: ts)

def okAny (_ : Str) : Bool := true
/-- the name between the braces contains no brace -/
def okBraceName (m : Str) : Bool := !(nameBrace m).contains '{' && !(nameBrace m).contains '}'

/-- documented form for keyMatch2 (`:name` runs to the next '/'; the whole pattern may be `*`) -/
def docTok2 (p : Str) : Option (List KTok) := if p = ['*'] then some [.star] else tokVar varLenColon okAny 0 p
/-- documented form for keyMatch3 (`{name}` up to the first `}`) -/
def tok3 (p : Str) : Option (List KTok) := tokVar varLenBraceLazy okAny 0 p
/-- documented form for keyMatch5 (and, with whole-segment variables, keyMatch4): `{name}`, the name without braces -/
def tok5 (p : Str) : Option (List KTok) := tokVar varLenBraceGreedy okBraceName 0 p

/-! ## binding: keyMatch4, keyGet2, keyGet3 -/

/-- every variable is directly followed by '/' or the end of the pattern, and `*` is last -/
def detForm : List KTok → Bool
  | [] => true
  | .var :: ts => (match ts with | [] => true | .lit c :: _ => c == '/' | _ => false) && detForm ts
  | .star :: ts => ts.isEmpty
  | .lit _ :: ts => detForm ts

/-- the texts bound by the variables, left to right (`none` = the key is not denoted) -/
def capsOf : List KTok → Str → Option (List Str)
  | [], s => if s.isEmpty then some [] else none
  | .lit c :: ts, s => (match s with | [] => none | x :: s' => if x = c then capsOf ts s' else none)
  | .star :: _, _ => some []
  | .var :: ts, s =>
    if (takeSeg s).isEmpty then none
    else (capsOf ts (s.drop (takeSeg s).length)).map (fun caps => takeSeg s :: caps)

/-- documented form for the binding functions: the documented form of the boolean function, and in addition
    every variable ends at a '/' or at the end of the pattern and `*` is last (then the match is unique) -/
def bindForm (toks : Option (List KTok)) : Option (List KTok) :=
  toks.bind (fun ts => if detForm ts then some ts else none)

/-- equal names bind equal texts (first occurrence binds) -/
def keyMatch4Spec (k p : Str) : Option Bool :=
  (bindForm (tok5 p)).map fun ts =>
    match capsOf ts k with
    | none => false
    | some caps => bindCheck [] ((namesVar varLenBraceGreedy nameBrace 0 p).zip caps)

/-- the text bound by the first variable named `v` (empty when the key is not denoted or no variable has that name) -/
def keyGet2Spec (k p v : Str) : Option Str :=
  if p = ['*'] then some []
  else (bindForm (tokVar varLenColon okAny 0 p)).map fun ts =>
    match capsOf ts k with
    | none => []
    | some caps => (((namesVar varLenColon nameColon 0 p).zip caps).lookup v).getD []

def keyGet3Spec (k p v : Str) : Option Str :=
  (bindForm (tok3 p)).map fun ts =>
    match capsOf ts k with
    | none => []
    | some caps => (((namesVar varLenBraceLazy nameBrace 0 p).zip caps).lookup v).getD []

/-! ## ipMatch

An address text denotes a family (IPv4: 32 bits, IPv6: 128 bits) and a number (`parseAddr`: dotted quad, or the
RFC 4291 text forms with an optional `%zone`). A pattern denotes a family, a number and a prefix length: an address
text (the length is the family's width: a single address), or `address/len` with `0 ≤ len ≤ width`. The pattern
denotes the block of the addresses OF ITS FAMILY whose leading `len` bits equal its own. -/

/-- membership of address `x` in the block of `y` with prefix length `len`, for addresses of `w` bits:
    the leading `len` bits agree -/
def sameBlock (w len x y : Nat) : Bool := x / 2 ^ (w - len) == y / 2 ^ (w - len)

/-- what a pattern denotes: (family, address, prefix length); `none` = not a documented pattern -/
def blockDen (b : Str) : Option (Fam × Nat × Nat) :=
  match splitOn '/' b with
  | [addr] =>
    (match parseAddr addr with
     | some (f, y) => some (f, y, f.width)
     | none => none)
  | [addr, m] =>
    (match parseAddr addr with
     | some (f, y) =>
       (match parsePrefixW f.width m with
        | some len => some (f, y, len)
        | none => none)
     | none => none)
  | _ => none

def ipSpec (a b : Str) : Option Bool :=
  match parseAddr a, blockDen b with
  | some (f, x), some (g, y, len) => some (f == g && sameBlock g.width len x y)
  | _, _ => none

end Casbin.Builtin.Spec
