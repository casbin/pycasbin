import CasbinV.Py.Str
/-!
# Lemmas about the Python `str` primitives of `Py/Str.lean`
-/
namespace Casbin.Py

theorem lstrip_cons (c : Char) (s : Str) : lstrip (c :: s) = if isSpace c then lstrip s else c :: s := by
  rw [lstrip]

theorem rstrip_cons (c : Char) (s : Str) :
    rstrip (c :: s) = if rstrip s = [] then (if isSpace c then [] else [c]) else c :: rstrip s := by
  rw [rstrip]; split <;> simp_all

theorem rstrip_cons_nonspace {c : Char} {s : Str} (hc : isSpace c = false) : rstrip (c :: s) = c :: rstrip s := by
  rw [rstrip_cons]; split <;> simp_all

theorem rstrip_append_of_ne_nil (s t : Str) (h : rstrip t ≠ []) : rstrip (s ++ t) = s ++ rstrip t := by
  induction s with
  | nil => rfl
  | cons c s ih => rw [List.cons_append, rstrip_cons, ih]; simp [h]

theorem lstrip_lstrip (s : Str) : lstrip (lstrip s) = lstrip s := by
  induction s with
  | nil => rfl
  | cons c s ih =>
    rw [lstrip_cons]
    split
    · exact ih
    · rw [lstrip_cons, if_neg ‹_›]

theorem rstrip_rstrip (s : Str) : rstrip (rstrip s) = rstrip s := by
  induction s with
  | nil => rfl
  | cons c s ih =>
    rw [rstrip_cons]
    split
    · split <;> simp [rstrip, *]
    · simp [rstrip_cons, *]

theorem lstrip_rstrip (s : Str) : lstrip (rstrip s) = rstrip (lstrip s) := by
  induction s with
  | nil => rfl
  | cons c s ih =>
    by_cases hc : isSpace c
    · rw [rstrip_cons]; split <;> simp_all [lstrip_cons]
    · simp_all [lstrip_cons, rstrip_cons_nonspace]

theorem strip_strip (s : Str) : strip (strip s) = strip s := by
  simp only [strip, ← lstrip_rstrip, lstrip_lstrip, rstrip_rstrip]

theorem strip_rstrip (s : Str) : strip (rstrip s) = strip s := by
  rw [strip, lstrip_rstrip, rstrip_rstrip, ← strip]

theorem lstrip_of_strip_eq {s : Str} (h : strip s = s) : lstrip s = s := by
  rw [← h, strip, ← lstrip_rstrip, lstrip_lstrip]

theorem rstrip_of_strip_eq {s : Str} (h : strip s = s) : rstrip s = s := by
  rw [← h, strip, rstrip_rstrip]

theorem strip_cons_space {c : Char} (s : Str) (hc : isSpace c = true) : strip (c :: s) = strip s := by
  rw [strip, lstrip_cons, if_pos hc, strip]

theorem strip_of_no_space {s : Str} (h : ∀ c ∈ s, isSpace c = false) : strip s = s := by
  have hl : lstrip s = s := by
    cases s with
    | nil => rfl
    | cons c s => rw [lstrip_cons, if_neg (by simp [h c])]
  rw [strip, hl]
  clear hl
  induction s with
  | nil => rfl
  | cons c s ih => simp_all [rstrip_cons_nonspace]

theorem splitOn_ne_nil (sep : Char) (s : Str) : splitOn sep s ≠ [] := by
  cases s with
  | nil => simp [splitOn]
  | cons c s =>
    simp only [splitOn]
    split
    · simp
    · split <;> simp

/-- `splitOn` without its unreachable branch -/
theorem splitOn_cons (sep c : Char) (s : Str) :
    splitOn sep (c :: s) =
      if c = sep then [] :: splitOn sep s
      else (c :: (splitOn sep s).head (splitOn_ne_nil sep s)) :: (splitOn sep s).tail := by
  have := splitOn_ne_nil sep s
  rw [splitOn]
  split
  · rfl
  · split
    · contradiction
    · rename_i e; simp [e]

theorem splitOn_append_sep (sep : Char) (a b : Str) :
    splitOn sep (a ++ sep :: b) = splitOn sep a ++ splitOn sep b := by
  induction a with
  | nil => simp [splitOn]
  | cons c a ih =>
    simp only [List.cons_append, splitOn_cons, ih]
    split <;> simp [splitOn_ne_nil]

theorem splitOn_not_mem (sep : Char) (s : Str) (h : sep ∉ s) : splitOn sep s = [s] := by
  induction s with
  | nil => rfl
  | cons c s ih =>
    simp only [List.mem_cons, not_or] at h
    simp [splitOn_cons, Ne.symm h.1, ih h.2]

theorem splitOn_append_of_not_mem (sep : Char) (n l : Str) (h : sep ∉ n) :
    splitOn sep (n ++ sep :: l) = n :: splitOn sep l := by
  rw [splitOn_append_sep, splitOn_not_mem sep n h]; rfl

theorem splitOn_flatten (sep : Char) (s : Str) : (splitOn sep s).flatten = s.filter (· != sep) := by
  induction s with
  | nil => rfl
  | cons c s ih =>
    rw [splitOn_cons]
    split
    · simp [*]
    · rw [List.flatten_cons, List.cons_append, ← List.flatten_cons, List.cons_head_tail]
      simp [*]

theorem all_of_splitOn (sep : Char) (P : Char → Bool) (s : Str) :
    (splitOn sep s).all (fun w => w.all P) = s.all (fun c => P c || c == sep) := by
  rw [← List.all_flatten, splitOn_flatten, List.all_filter]
  simp [Bool.or_comm, bne]

theorem mem_of_mem_splitOn (sep : Char) (s w : Str) (c : Char) (hw : w ∈ splitOn sep s) (hc : c ∈ w) : c ∈ s := by
  have : c ∈ (splitOn sep s).flatten := List.mem_flatten.2 ⟨w, hw, hc⟩
  rw [splitOn_flatten] at this
  exact (List.mem_filter.1 this).1

theorem splitOn_join (sep : Char) (ls : List Str) (h : ∀ l ∈ ls, sep ∉ l) :
    splitOn sep (join [sep] ls) = if ls = [] then [[]] else ls := by
  fun_induction join [sep] ls <;> simp_all [splitOn, splitOn_not_mem, splitOn_append_of_not_mem]

theorem mem_join {c : Char} {sep : Str} {ls : List Str} (h : c ∈ join sep ls) : c ∈ sep ∨ ∃ l ∈ ls, c ∈ l := by
  fun_induction join sep ls with
  | case1 => cases h
  | case2 p => exact .inr ⟨p, by simp, h⟩
  | case3 p q ps ih =>
    rcases List.mem_append.mp h with h | h
    · rcases List.mem_append.mp h with h | h
      · exact .inr ⟨p, by simp, h⟩
      · exact .inl h
    · exact (ih h).imp_right fun ⟨l, hl, hc⟩ => ⟨l, List.mem_cons_of_mem _ hl, hc⟩

theorem sep_append_join (sep : Str) (ls : List Str) (hne : ls ≠ []) :
    sep ++ join sep ls = ls.flatMap (sep ++ ·) := by
  fun_induction join sep ls <;> simp_all

theorem join_append_sep (sep : Str) (ls : List Str) (hne : ls ≠ []) :
    join sep ls ++ sep = ls.flatMap (· ++ sep) := by
  fun_induction join sep ls <;> simp_all

theorem join_ne_nil (sep : Str) {l : Str} (ls : List Str) (h : l ≠ []) : join sep (l :: ls) ≠ [] := by
  cases ls <;> simp [join, h]

theorem rstripChar_append_of_ne_nil (c : Char) (s t : Str) (h : rstripChar c t ≠ []) :
    rstripChar c (s ++ t) = s ++ rstripChar c t := by
  induction s with
  | nil => rfl
  | cons y s ih => simp [rstripChar, ih, h]

theorem rstripChar_snoc_eq (c : Char) (s : Str) : rstripChar c (s ++ [c]) = rstripChar c s := by
  induction s with
  | nil => simp [rstripChar]
  | cons y s ih => simp [rstripChar, ih]

theorem rstripChar_of_not_mem (c : Char) (s : Str) (h : c ∉ s) : rstripChar c s = s := by
  induction s with
  | nil => rfl
  | cons y s ih =>
    simp only [List.mem_cons, not_or] at h
    rw [rstripChar, ih h.2]
    cases s <;> simp [Ne.symm h.1]

/-- a line break after every line and then `rstrip("\n")` is a line break between the lines -/
theorem rstripChar_terminated (c : Char) (ls : List Str) (h : ∀ l ∈ ls, l ≠ [] ∧ c ∉ l) :
    rstripChar c (ls.flatMap (· ++ [c])) = join [c] ls := by
  fun_induction join [c] ls with
  | case1 => rfl
  | case2 p => simp [rstripChar_snoc_eq, rstripChar_of_not_mem c p (h p (by simp)).2]
  | case3 p q ps ih =>
    have ih := ih fun l hl => h l (by simp [hl])
    rw [List.flatMap_cons, rstripChar_append_of_ne_nil _ _ _ (ih ▸ join_ne_nil _ _ (h q (by simp)).1), ih]

end Casbin.Py
