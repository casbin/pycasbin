import CasbinV.Proofs.RWLockAbs
/-!
# Simulation: the instruction-list interpreter of `Model/RWLock.lean` on the expected program refines the counter
abstraction (helper of C16)

`sim_step` / `sim_spurious`: every interpreter step (one instruction of one thread, or a spurious wake-up) from a
well-formed state is a `CStep` between the abstractions, and well-formedness (every thread at a program point of the
expected program) is preserved. `interp_reach`: hence every state the interpreter reaches from `expected.init scripts`
abstracts to a `Reach`-able counter state. No stuttering: the abstraction is as fine as the interpreter.
-/
namespace Casbin.C16
open Casbin.RW

/-- every thread is at a program point of the expected program -/
def WF (s : Sys) : Prop := ∀ t ∈ s.ts, clsOf t.loc ≠ .bad

theorem clsOf_loc (c : Cls) (h : c ≠ .bad) : clsOf c.loc = c := by
  cases c <;> first | rfl | exact absurd rfl h

theorem loc_of_cls {l : Loc} {c : Cls} (h : clsOf l = c) (hb : c ≠ .bad) : l = c.loc := by
  unfold clsOf at h
  cases hf : Cls.all.find? (fun c => c.loc == l) with
  | none => rw [hf] at h; exact absurd h.symm hb
  | some c' =>
    rw [hf] at h
    cases h
    have := List.find?_some hf
    exact (beq_iff_eq.mp this).symm

theorem cnt_set (c : Cls) (ts : List Thread) (i : Nat) (t' : Thread) (hi : i < ts.length) :
    cnt c (ts.set i t') = cnt c ts - (if clsOf ts[i].loc = c then 1 else 0) + (if clsOf t'.loc = c then 1 else 0) := by
  unfold cnt
  rw [List.countP_set hi]
  simp

theorem cnt_pos {c : Cls} {ts : List Thread} {t : Thread} (ht : t ∈ ts) (h : clsOf t.loc = c) : 0 < cnt c ts :=
  List.countP_pos_iff.mpr ⟨t, ht, beq_iff_eq.mpr h⟩

theorem cnt_hold_zero (c : Cls) (ts : List Thread) (hfree : mutexFree ts = true) (hc : c.loc.holds = true) :
    cnt c ts = 0 := by
  have hb : c ≠ .bad := by rintro rfl; cases hc
  refine List.countP_eq_zero.mpr fun t ht hcl => ?_
  have := List.all_eq_true.mp hfree t ht
  rw [loc_of_cls (beq_iff_eq.mp hcl) hb, hc] at this
  cases this

theorem holders_zero (s : Sys) (hfree : mutexFree s.ts = true) : (abs s).holders = 0 := by
  have h := fun c => cnt_hold_zero c s.ts hfree
  simp only [CS.holders, abs]
  rw [h .rH0 rfl, h .rH1 rfl, h .rH2 rfl, h .rrH0 rfl, h .rrH1 rfl, h .rrH1n rfl, h .rrH2 rfl, h .wH0 rfl, h .wH1 rfl,
    h .wH2 rfl, h .wH3 rfl, h .wH4 rfl, h .wrH0 rfl, h .wrH1 rfl, h .wrH2 rfl]

/-- effect of `notify_all` on a program point -/
def wakeCls (c : Cls) : Cls := if c = .rS then .rN else if c = .wS then .wN else c

theorem clsOf_wake (t : Thread) (hb : clsOf t.loc ≠ .bad) : clsOf (wake t).loc = wakeCls (clsOf t.loc) := by
  have hl := loc_of_cls rfl hb
  generalize clsOf t.loc = c at hl hb
  obtain ⟨loc, todo⟩ := t
  simp only at hl
  subst hl
  cases c <;> first | rfl | decide | exact absurd rfl hb

theorem wake_ne_bad (t : Thread) (hb : clsOf t.loc ≠ .bad) : clsOf (wake t).loc ≠ .bad := by
  rw [clsOf_wake t hb]
  generalize clsOf t.loc = c at hb
  cases c <;> simp_all [wakeCls]

/-- how many threads are at `c` after a `notify_all` -/
def wokenCnt (c : Cls) (ts : List Thread) : Nat :=
  if c = .rS ∨ c = .wS then 0
  else if c = .rN then cnt .rN ts + cnt .rS ts
  else if c = .wN then cnt .wN ts + cnt .wS ts
  else cnt c ts

theorem cnt_wake (c : Cls) (ts : List Thread) (hwf : ∀ t ∈ ts, clsOf t.loc ≠ .bad) :
    cnt c (ts.map wake) = wokenCnt c ts := by
  induction ts with
  | nil => simp [wokenCnt, cnt]
  | cons t ts ih =>
    have ih := ih fun u hu => hwf u (List.mem_cons_of_mem _ hu)
    simp only [wokenCnt, cnt, List.map_cons, List.countP_cons, clsOf_wake t (hwf t List.mem_cons_self), wakeCls] at ih ⊢
    generalize clsOf t.loc = k
    grind

/-- abstract state after one thread moved from program point `a` to `b` (variables given) -/
def moved (cs : CS) (a b : Cls) (ar ww : Int) (wa : Nat) : CS :=
  let f := fun (c : Cls) (n : Nat) => n - (if a = c then 1 else 0) + (if b = c then 1 else 0)
  { ar := ar, ww := ww, wa := wa, idle := f .idle cs.idle,
    rW := f .rW cs.rW, rH0 := f .rH0 cs.rH0, rS := f .rS cs.rS, rN := f .rN cs.rN, rH1 := f .rH1 cs.rH1,
    rH2 := f .rH2 cs.rH2, rIn := f .rIn cs.rIn,
    rrW := f .rrW cs.rrW, rrH0 := f .rrH0 cs.rrH0, rrH1 := f .rrH1 cs.rrH1, rrH1n := f .rrH1n cs.rrH1n, rrH2 := f .rrH2 cs.rrH2,
    wW := f .wW cs.wW, wH0 := f .wH0 cs.wH0, wH1 := f .wH1 cs.wH1, wS := f .wS cs.wS, wN := f .wN cs.wN,
    wH2 := f .wH2 cs.wH2, wH3 := f .wH3 cs.wH3, wH4 := f .wH4 cs.wH4, wIn := f .wIn cs.wIn,
    wrW := f .wrW cs.wrW, wrH0 := f .wrH0 cs.wrH0, wrH1 := f .wrH1 cs.wrH1, wrH2 := f .wrH2 cs.wrH2 }

def waNat (v : Vars) : Nat := if v.wa then 1 else 0

theorem abs_set (s : Sys) (i : Nat) (hi : i < s.ts.length) (t' : Thread) (v' : Vars) :
    abs { v := v', ts := s.ts.set i t' } = moved (abs s) (clsOf s.ts[i].loc) (clsOf t'.loc) v'.ar v'.ww (waNat v') := by
  simp [abs, moved, cnt_set _ _ _ _ hi, waNat]

theorem abs_wake (s : Sys) (hwf : WF s) : abs { v := s.v, ts := s.ts.map wake } = (abs s).wakeAll := by
  simp [abs, CS.wakeAll, cnt_wake _ _ hwf, wokenCnt]

theorem wf_set {s : Sys} (hwf : WF s) (i : Nat) (t' : Thread) (v' : Vars) (hb : clsOf t'.loc ≠ .bad) :
    WF { v := v', ts := s.ts.set i t' } := by
  intro t ht
  rcases List.mem_or_eq_of_mem_set ht with h | h
  · exact hwf t h
  · subst h; exact hb

theorem wf_wake {s : Sys} (hwf : WF s) : WF { v := s.v, ts := s.ts.map wake } := by
  intro t ht
  simp only [List.mem_map] at ht
  obtain ⟨u, hu, rfl⟩ := ht
  exact wake_ne_bad u (hwf u hu)

theorem waNat_pos (v : Vars) : 0 < waNat v ↔ v.wa = true := by
  cases h : v.wa <;> simp [waNat, h]

/-- the two `while` tests (`cR`: `x = ww`, `cW`: `x = ar`) -/
theorem test_eval (v : Vars) (x : Var) : (Cond.or (.pos x) .flag).eval v = true ↔ (0 < v.get x ∨ 0 < waNat v) :=
  Bool.or_eq_true_iff.trans (or_congr decide_eq_true_iff (waNat_pos v).symm)

/-! ## The expected program, thread by thread

`move` is the table of the expected program; `step_expected` says that the interpreter on `expected` is that table.
Simulation (`sim_step`), the decrease of the termination measure (`step_decreases`, `Proofs/RWLockTerm.lean`) and
blocking (`step_blocked`) are read off the table, each by one uniform pass over its rows. -/

def Lbl.locks : Lbl → Bool
  | .rLock | .rRelock | .rrLock | .wLock | .wRelock | .wrLock => true
  | _ => false

def Lbl.notifies : Lbl → Bool
  | .rrNotify | .wrNotify => true
  | _ => false

/-- what a transition does to the variables -/
def Lbl.eff (v : Vars) : Lbl → Vars
  | .rInc => v.set .ar (v.get .ar + 1)
  | .rrDec => v.set .ar (v.get .ar - 1)
  | .wReg => v.set .ww (v.get .ww + 1)
  | .wDec => v.set .ww (v.get .ww - 1)
  | .wSet => { v with wa := true }
  | .wrClear => { v with wa := false }
  | _ => v

/-- the transition a thread at program point `c` takes next and the point it leads to, when the variables are `v`
    (`next` = the round its script asks for, read only when idle); `none` = asleep or finished -/
def move (v : Vars) (next : Option Role) : Cls → Option (Lbl × Cls)
  | .idle => next.map fun | .reader => (.rStart, .rW) | .writer => (.wStart, .wW)
  | .rW => some (.rLock, .rH0)
  | .rN => some (.rRelock, .rH0)
  | .rH0 => some (if cR.eval v then (.rWait, .rS) else (.rPass, .rH1))
  | .rH1 => some (.rInc, .rH2)
  | .rH2 => some (.rUnlock, .rIn)
  | .rIn => some (.rrStart, .rrW)
  | .rrW => some (.rrLock, .rrH0)
  | .rrH0 => some (.rrDec, .rrH1)
  | .rrH1 => some (if (Cond.isZero .ar).eval v then (.rrIfT, .rrH1n) else (.rrIfF, .rrH2))
  | .rrH1n => some (.rrNotify, .rrH2)
  | .rrH2 => some (.rrUnlock, .idle)
  | .wW => some (.wLock, .wH0)
  | .wH0 => some (.wReg, .wH1)
  | .wN => some (.wRelock, .wH1)
  | .wH1 => some (if cW.eval v then (.wWait, .wS) else (.wPass, .wH2))
  | .wH2 => some (.wDec, .wH3)
  | .wH3 => some (.wSet, .wH4)
  | .wH4 => some (.wUnlock, .wIn)
  | .wIn => some (.wrStart, .wrW)
  | .wrW => some (.wrLock, .wrH0)
  | .wrH0 => some (.wrClear, .wrH1)
  | .wrH1 => some (.wrNotify, .wrH2)
  | .wrH2 => some (.wrUnlock, .idle)
  | .rS | .wS | .bad => none

theorem step_expected {v : Vars} {ts : List Thread} {i : Nat} {t : Thread} {c : Cls} (ht : ts[i]? = some t)
    (hl : t.loc = c.loc) :
    step expected ⟨v, ts⟩ i = (move v t.todo.head? c).bind fun m =>
      if !m.1.locks || mutexFree ts then
        some ⟨m.1.eff v, (if m.1.notifies then ts.map wake else ts).set i
          ⟨m.2.loc, t.todo.drop (if c = .idle then 1 else 0)⟩⟩
      else none := by
  obtain ⟨l, todo⟩ := t
  subst hl
  simp only [step, ht]
  cases c with
  | idle => cases todo with
    | nil => rfl
    | cons r td => cases r <;> rfl
  | rH0 | rrH1 | wH1 => simp only [Cls.loc, move, Option.bind_some]; split <;> rfl
  | _ => rfl

/-- a step from a well-formed state, as a row of the table -/
theorem step_cases {s s' : Sys} {i : Nat} (hwf : WF s) (h : step expected s i = some s') :
    ∃ (hi : i < s.ts.length) (m : Lbl × Cls), move s.v s.ts[i].todo.head? (clsOf s.ts[i].loc) = some m ∧
      (m.1.locks = true → mutexFree s.ts = true) ∧
      s' = ⟨m.1.eff s.v, (if m.1.notifies then s.ts.map wake else s.ts).set i
        ⟨m.2.loc, s.ts[i].todo.drop (if clsOf s.ts[i].loc = .idle then 1 else 0)⟩⟩ := by
  obtain ⟨v, ts⟩ := s
  cases ht : ts[i]? with
  | none => simp [step, ht] at h
  | some t =>
    obtain ⟨hi, rfl⟩ := List.getElem?_eq_some_iff.mp ht
    rw [step_expected ht (loc_of_cls rfl (hwf _ (List.getElem_mem hi)))] at h
    obtain ⟨m, hm, h⟩ := Option.bind_eq_some_iff.mp h
    split at h <;> cases h
    exact ⟨hi, m, hm, fun hl => by simp_all, rfl⟩

theorem move_ne_bad {v : Vars} {next : Option Role} {c : Cls} {m : Lbl × Cls} (hm : move v next c = some m) :
    m.2 ≠ .bad := by
  cases c with
  | idle => obtain ⟨r, -, rfl⟩ := Option.map_eq_some_iff.mp hm; cases r <;> decide
  | rH0 | rrH1 | wH1 => cases hm; split <;> decide
  | rS | wS | bad => cases hm
  | _ => cases hm; decide

/-- a thread that moves is not asleep: its own `notify_all` leaves it where it is -/
theorem move_awake {v : Vars} {next : Option Role} {c : Cls} {m : Lbl × Cls} (hm : move v next c = some m) :
    wakeCls c = c := by
  cases c <;> first | rfl | cases hm

/-- the abstraction after thread `i` has gone to program point `b` (having called `notify_all`, if `n`) -/
theorem abs_move {v : Vars} {ts : List Thread} (hwf : WF ⟨v, ts⟩) {i : Nat} (hi : i < ts.length) (n : Bool)
    (hn : n = true → wakeCls (clsOf ts[i].loc) = clsOf ts[i].loc) {b : Cls} (hb : b ≠ .bad) (t' : Thread)
    (hl : t'.loc = b.loc) (v' : Vars) :
    WF ⟨v', (if n then ts.map wake else ts).set i t'⟩ ∧
      abs ⟨v', (if n then ts.map wake else ts).set i t'⟩ =
        moved (if n then (abs ⟨v, ts⟩).wakeAll else abs ⟨v, ts⟩) (clsOf ts[i].loc) b v'.ar v'.ww (waNat v') := by
  have hcb : clsOf t'.loc = b := hl ▸ clsOf_loc b hb
  cases n with
  | false => exact ⟨wf_set hwf i t' v' (hcb ▸ hb), by rw [← hcb]; exact abs_set ⟨v, ts⟩ i hi t' v'⟩
  | true =>
    have hi' : i < (ts.map wake).length := by simpa using hi
    refine ⟨wf_set (wf_wake hwf) i t' v' (hcb ▸ hb), ?_⟩
    rw [if_pos rfl, if_pos rfl, ← abs_wake ⟨v, ts⟩ hwf, abs_set ⟨v, ts.map wake⟩ i hi', hcb, List.getElem_map,
      clsOf_wake _ (hwf _ (List.getElem_mem hi)), hn rfl]

-- `exact .rLock ..` has to see that `{ A with rW := A.rW - 1, rH0 := A.rH0 + 1 }` and `moved A .rW .rH0 ..` agree
-- field by field; with `cnt` sealed the unifier does not unfold the counters while it does so
attribute [local irreducible] cnt in
/-- each row of the table is the transition of the counter abstraction it names -/
theorem move_cstep {v : Vars} {next : Option Role} {c : Cls} {m : Lbl × Cls} (hm : move v next c = some m)
    (ts : List Thread) (hp : 0 < cnt c ts) (hfree : m.1.locks = true → (abs ⟨v, ts⟩).holders = 0) :
    CStep m.1 (abs ⟨v, ts⟩) (moved (if m.1.notifies then (abs ⟨v, ts⟩).wakeAll else abs ⟨v, ts⟩) c m.2
      (m.1.eff v).ar (m.1.eff v).ww (waNat (m.1.eff v))) := by
  cases c with
  | idle =>
    obtain ⟨r, -, rfl⟩ := Option.map_eq_some_iff.mp hm
    cases r
    · exact .rStart _ hp
    · exact .wStart _ hp
  | rW => cases hm; exact .rLock _ hp (hfree rfl)
  | rN => cases hm; exact .rRelock _ hp (hfree rfl)
  | rH0 =>
    cases hm
    split
    · exact .rWait _ hp ((test_eval v .ww).mp ‹_›)
    · exact .rPass _ hp (mt (test_eval v .ww).mpr ‹_›)
  | rH1 => cases hm; exact .rInc _ hp
  | rH2 => cases hm; exact .rUnlock _ hp
  | rIn => cases hm; exact .rrStart _ hp
  | rrW => cases hm; exact .rrLock _ hp (hfree rfl)
  | rrH0 => cases hm; exact .rrDec _ hp
  | rrH1 =>
    cases hm
    split
    · exact .rrIfT _ hp (of_decide_eq_true ‹_›)
    · exact .rrIfF _ hp (mt decide_eq_true ‹_›)
  | rrH1n => cases hm; exact .rrNotify _ hp
  | rrH2 => cases hm; exact .rrUnlock _ hp
  | wW => cases hm; exact .wLock _ hp (hfree rfl)
  | wH0 => cases hm; exact .wReg _ hp
  | wN => cases hm; exact .wRelock _ hp (hfree rfl)
  | wH1 =>
    cases hm
    split
    · exact .wWait _ hp ((test_eval v .ar).mp ‹_›)
    · exact .wPass _ hp (mt (test_eval v .ar).mpr ‹_›)
  | wH2 => cases hm; exact .wDec _ hp
  | wH3 => cases hm; exact .wSet _ hp
  | wH4 => cases hm; exact .wUnlock _ hp
  | wIn => cases hm; exact .wrStart _ hp
  | wrW => cases hm; exact .wrLock _ hp (hfree rfl)
  | wrH0 => cases hm; exact .wrClear _ hp
  | wrH1 => cases hm; exact .wrNotify _ hp
  | wrH2 => cases hm; exact .wrUnlock _ hp
  | rS | wS | bad => cases hm

theorem sim_step {s s' : Sys} {i : Nat} (hwf : WF s) (h : step expected s i = some s') :
    WF s' ∧ ∃ l, CStep l (abs s) (abs s') := by
  obtain ⟨hi, m, hm, hfree, rfl⟩ := step_cases hwf h
  obtain ⟨hw, he⟩ := abs_move hwf hi m.1.notifies (fun _ => move_awake hm) (move_ne_bad hm) ⟨m.2.loc, _⟩ rfl (m.1.eff s.v)
  exact ⟨hw, m.1, he ▸ move_cstep hm s.ts (cnt_pos (List.getElem_mem hi) rfl) fun hl => holders_zero s (hfree hl)⟩

theorem sim_spurious {s s' : Sys} {i : Nat} (hwf : WF s) (h : spurious s i = some s') :
    WF s' ∧ ∃ l, CStep l (abs s) (abs s') := by
  obtain ⟨v, ts⟩ := s
  cases ht : ts[i]? with
  | none => simp [spurious, ht] at h
  | some t =>
    obtain ⟨hi, rfl⟩ := List.getElem?_eq_some_iff.mp ht
    have hb := hwf _ (List.getElem_mem hi)
    have hl := loc_of_cls rfl hb
    have hp := cnt_pos (List.getElem_mem hi) rfl
    have hm := fun b hb t' hl => abs_move hwf hi false nofun (b := b) hb t' hl v
    generalize clsOf ts[i].loc = c at hl hp hb hm
    simp only [spurious, ht, hl] at h
    cases c with
    | rS =>
      cases h
      obtain ⟨hw, he⟩ := hm .rN (by decide) ⟨Cls.rN.loc, ts[i].todo⟩ rfl
      exact ⟨hw, .rSpur, he ▸ .rSpur _ hp⟩
    | wS =>
      cases h
      obtain ⟨hw, he⟩ := hm .wN (by decide) ⟨Cls.wN.loc, ts[i].todo⟩ rfl
      exact ⟨hw, .wSpur, he ▸ .wSpur _ hp⟩
    | bad => exact absurd rfl hb
    | _ => cases h

/-! ## The interpreter's own transition system and the transfer of the theorems -/

def IStep (s s' : Sys) : Prop := ∃ i, step expected s i = some s' ∨ spurious s i = some s'

inductive IReach (scripts : List (List Role)) : Sys → Prop
  | init : IReach scripts (expected.init scripts)
  | step {s s' : Sys} : IReach scripts s → IStep s s' → IReach scripts s'

theorem cnt_init (c : Cls) (scripts : List (List Role)) :
    cnt c (scripts.map fun sc => ({ loc := .idle, todo := sc } : Thread)) = if c = .idle then scripts.length else 0 := by
  induction scripts with
  | nil => simp [cnt]
  | cons a as ih =>
    simp only [List.map_cons, cnt, List.countP_cons] at ih ⊢
    rw [ih]
    have : clsOf Loc.idle = .idle := rfl
    simp only [this]
    cases c <;> simp <;> omega

theorem abs_init (scripts : List (List Role)) : abs (expected.init scripts) = cinit scripts.length := by
  simp [abs, Prog.init, cinit, expected, cnt_init]

theorem wf_init (scripts : List (List Role)) : WF (expected.init scripts) := by
  intro t ht
  simp only [Prog.init, List.mem_map] at ht
  obtain ⟨sc, _, rfl⟩ := ht
  show clsOf Loc.idle ≠ Cls.bad
  decide

theorem sim_istep {s s' : Sys} (hwf : WF s) (h : IStep s s') : WF s' ∧ ∃ l, CStep l (abs s) (abs s') := by
  obtain ⟨i, h | h⟩ := h
  · exact sim_step hwf h
  · exact sim_spurious hwf h

theorem interp_reach {scripts : List (List Role)} {s : Sys} (r : IReach scripts s) :
    WF s ∧ Reach scripts.length (abs s) := by
  induction r with
  | init => exact ⟨wf_init scripts, abs_init scripts ▸ Reach.init⟩
  | step _ st ih =>
    obtain ⟨hw, l, hc⟩ := sim_istep ih.1 st
    exact ⟨hw, Reach.step ih.2 hc⟩

/-- the program points `rIn` / `wIn` are the sections: the driver's `nInside` is a counter of the abstraction -/
theorem nInside_eq (r : Role) (c : Cls) (hc : c.loc = .inside r) (hb : c ≠ .bad) (s : Sys) : nInside r s = cnt c s.ts := by
  refine List.countP_congr fun t _ => ?_
  rw [← hc, beq_iff_eq, beq_iff_eq]
  exact ⟨fun h => h ▸ clsOf_loc c hb, fun h => loc_of_cls h hb⟩

theorem nInside_reader (s : Sys) : nInside .reader s = (abs s).rIn := nInside_eq .reader .rIn rfl (by decide) s

theorem nInside_writer (s : Sys) : nInside .writer s = (abs s).wIn := nInside_eq .writer .wIn rfl (by decide) s

theorem writerWaiting_pos {s : Sys} (hwf : WF s) (h : writerWaiting s = true) : 0 < (abs s).wS + (abs s).wN := by
  obtain ⟨t, ht, hm⟩ := List.any_eq_true.mp h
  have hp := cnt_pos ht rfl
  rw [loc_of_cls rfl (hwf t ht)] at hm
  show 0 < cnt .wS s.ts + cnt .wN s.ts
  generalize clsOf t.loc = c at hm hp
  cases c with
  | wS | wN => omega
  | _ => cases hm

/-! ### When a thread cannot step (for `interp_deadlock_free`, `Props/C16.lean`) -/

theorem move_eq_none {v : Vars} {next : Option Role} {c : Cls} (h : move v next c = none) :
    c = .rS ∨ c = .wS ∨ c = .bad ∨ (c = .idle ∧ next = none) := by
  cases c <;> simp_all [move]

/-- only a thread that does not hold the mutex tries to take it -/
theorem move_locks {v : Vars} {next : Option Role} {c : Cls} {m : Lbl × Cls} (hm : move v next c = some m)
    (hl : m.1.locks = true) : c.loc.holds = false := by
  -- a sweep over the rows of the table: the six that lock start where the mutex is not held
  cases c with
  | rW | rN | rrW | wW | wN | wrW => rfl
  | idle => obtain ⟨r, -, rfl⟩ := Option.map_eq_some_iff.mp hm; cases r <;> cases hl
  | rH0 | rrH1 | wH1 => cases hm; split at hl <;> cases hl
  | rS | wS | bad => cases hm
  | _ => cases hm; cases hl

/-- a thread that cannot step does not hold the mutex; if the mutex is free, it is asleep or has finished its script -/
theorem step_blocked {v : Vars} {ts : List Thread} {i : Nat} {t : Thread} {c : Cls} (ht : ts[i]? = some t)
    (hl : t.loc = c.loc) (hb : c ≠ .bad) (h : step expected ⟨v, ts⟩ i = none) :
    c.loc.holds = false ∧ (mutexFree ts = true → c = .rS ∨ c = .wS ∨ (c = .idle ∧ t.todo = [])) := by
  rw [step_expected ht hl] at h
  cases hm : move v t.todo.head? c with
  | none =>
    rcases move_eq_none hm with rfl | rfl | rfl | ⟨rfl, hn⟩
    · exact ⟨rfl, fun _ => .inl rfl⟩
    · exact ⟨rfl, fun _ => .inr (.inl rfl)⟩
    · exact absurd rfl hb
    · exact ⟨rfl, fun _ => .inr (.inr ⟨rfl, List.head?_eq_none_iff.mp hn⟩)⟩
  | some m =>
    rw [hm, Option.bind_some] at h
    have hlk : m.1.locks = true ∧ mutexFree ts = false := by
      split at h
      · cases h
      · simp_all
    exact ⟨move_locks hm hlk.1, fun hf => by simp [hf] at hlk⟩

end Casbin.C16
