import CasbinV.Proofs.RWLockSim
/-!
# Termination of finite thread programs on the readers-writer lock (helper of C16)

Measure `mu s = (R, L)`, ordered lexicographically: `R` = number of rounds not yet past their `notify_all` point
(remaining script entries + rounds in progress), `L` = sum of the threads' local distances to the end of their script.
A `notify_all` step lowers `R` (and may raise `L`, by waking sleepers); every other step of a thread leaves `R` of the
other threads alone, does not raise its own, and lowers `L`. Spurious wake-ups are excluded (with them a sleeper may
spin for ever, as for any condition variable).
-/
namespace Casbin.C16
open Casbin.RW

/-- is the thread inside a round that has not yet passed its `notify_all` point? (`.exec _ true .hold []` = about to
    release the mutex at the end of a release method) -/
def inRound : Loc → Nat
  | .idle => 0
  | .exec _ true .hold [] => 0
  | _ => 1

def wgt (t : Thread) : Nat := t.todo.length + inRound t.loc

/-- rank of a program point: all that is asked is that every row of `move` descends (`move_measure`). A sleeper ranks
    below the test that sent it to sleep and a notified thread above the test it goes back to, so waking (`rS → rN`,
    `wS → wN`) RAISES this component: that is why `notify_all` is paid for by the first component of `mu`. -/
def pos : Cls → Nat
  | .idle => 0
  | .rW => 20 | .rN => 19 | .rH0 => 18 | .rS => 17 | .rH1 => 16 | .rH2 => 15 | .rIn => 14
  | .rrW => 13 | .rrH0 => 12 | .rrH1 => 11 | .rrH1n => 10 | .rrH2 => 9
  | .wW => 24 | .wH0 => 23 | .wN => 22 | .wH1 => 21 | .wS => 20 | .wH2 => 19 | .wH3 => 18 | .wH4 => 17 | .wIn => 16
  | .wrW => 15 | .wrH0 => 14 | .wrH1 => 13 | .wrH2 => 12
  | .bad => 0

/-- `30`: any bound above the ranks (largest: 24), so that starting a round (rank 0 to 20 or 24, one script entry
    less) descends too -/
def dist (t : Thread) : Nat := 30 * t.todo.length + pos (clsOf t.loc)

def mu (s : Sys) : Nat × Nat := ((s.ts.map wgt).sum, (s.ts.map dist).sum)

def lexLt (a b : Nat × Nat) : Prop := a.1 < b.1 ∨ (a.1 = b.1 ∧ a.2 < b.2)

theorem sum_map_set {α : Type} (f : α → Nat) (l : List α) (i : Nat) (a : α) (hi : i < l.length) :
    ((l.set i a).map f).sum + f l[i] = (l.map f).sum + f a := by
  induction l generalizing i with
  | nil => simp at hi
  | cons x xs ih =>
    cases i with
    | zero => simp; omega
    | succ j =>
      simp only [List.length_cons, Nat.add_lt_add_iff_right] at hi
      have := ih j hi
      simp only [List.set_cons_succ, List.map_cons, List.sum_cons, List.getElem_cons_succ]
      omega

theorem wgt_wake (t : Thread) : wgt (wake t) = wgt t := by
  obtain ⟨l, td⟩ := t
  unfold wake wgt
  cases l with
  | idle => rfl
  | inside r => rfl
  | exec r lv ph rest => cases ph <;> cases lv <;> cases rest <;> rfl

theorem mu_move {v v' : Vars} {ts : List Thread} {i : Nat} (hi : i < ts.length) (t' : Thread)
    (hw : wgt t' ≤ wgt ts[i]) (hd : dist t' < dist ts[i]) : lexLt (mu ⟨v', ts.set i t'⟩) (mu ⟨v, ts⟩) := by
  have h1 := sum_map_set wgt ts i t' hi
  have h2 := sum_map_set dist ts i t' hi
  simp only [lexLt, mu]
  omega

theorem mu_notify {v v' : Vars} {ts : List Thread} {i : Nat} (hi : i < ts.length) (t' : Thread)
    (hw : wgt t' < wgt ts[i]) : lexLt (mu ⟨v', (ts.map wake).set i t'⟩) (mu ⟨v, ts⟩) := by
  have hi' : i < (ts.map wake).length := by simpa using hi
  have h1 := sum_map_set wgt (ts.map wake) i t' hi'
  rw [List.map_map, List.getElem_map, wgt_wake, (funext wgt_wake : wgt ∘ wake = wgt)] at h1
  simp only [lexLt, mu]
  omega

/-- every row of the table brings the thread nearer to the end of its round (a new round costs one script entry),
    and the two `notify_all` rows end the round -/
theorem move_measure {v : Vars} {next : Option Role} {c : Cls} {m : Lbl × Cls} (hm : move v next c = some m) :
    inRound m.2.loc + m.1.notifies.toNat ≤ inRound c.loc + (if c = .idle then 1 else 0) ∧
      pos m.2 < pos c + 30 * (if c = .idle then 1 else 0) := by
  cases c with
  | idle => obtain ⟨r, -, rfl⟩ := Option.map_eq_some_iff.mp hm; cases r <;> decide
  | rH0 | rrH1 | wH1 => cases hm; split <;> decide
  | rS | wS | bad => cases hm
  | _ => cases hm; decide

theorem step_decreases {s s' : Sys} {i : Nat} (hwf : WF s) (h : step expected s i = some s') : lexLt (mu s') (mu s) := by
  obtain ⟨hi, m, hm, -, rfl⟩ := step_cases hwf h
  have ⟨h1, h2⟩ := move_measure hm
  rw [← loc_of_cls rfl (hwf _ (List.getElem_mem hi))] at h1
  -- an idle thread that moves has a script entry to spend
  have h0 : (if clsOf s.ts[i].loc = .idle then 1 else 0) ≤ s.ts[i].todo.length := by
    split
    · rename_i hc
      rw [hc] at hm
      cases htd : s.ts[i].todo <;> simp [htd, move] at hm ⊢
    · exact Nat.zero_le _
  generalize (if clsOf s.ts[i].loc = Cls.idle then 1 else 0) = k at *
  cases hn : m.1.notifies with
  | true =>
    refine mu_notify hi _ ?_
    simp only [wgt, List.length_drop, hn, Bool.toNat_true] at h1 ⊢
    omega
  | false =>
    refine mu_move hi _ ?_ ?_
    · simp only [wgt, List.length_drop, hn, Bool.toNat_false] at h1 ⊢
      omega
    · simp only [dist, List.length_drop, clsOf_loc _ (move_ne_bad hm)]
      omega

theorem lexLt_wf : WellFounded lexLt :=
  Subrelation.wf Prod.lex_def.mpr (Prod.lex Nat.lt_wfRel Nat.lt_wfRel).wf

/-- C16, termination of finite programs: from a well-formed state (every thread at a program point of the expected
    program; its script of rounds still to do is a list, hence finite) there is no infinite sequence of interpreter
    steps, spurious wake-ups excluded. What this gives with `interp_deadlock_free`: see `interp_terminates`. -/
theorem terminates_finite_programs :
    WellFounded (fun (s' s : Sys) => WF s ∧ ∃ i, step expected s i = some s') :=
  Subrelation.wf (fun ⟨hwf, _, hs⟩ => step_decreases hwf hs) (InvImage.wf mu lexLt_wf)

end Casbin.C16
