import CasbinV.Model.Fast
import CasbinV.Proofs.ListFacts
/-!
# The nested key index of `FastPolicy` (`Idx`), its representation invariant `Good`, and what `append`
  and `remove` do to the iterated rules

Under `Good` every dict level has unique keys, so `d[k] = w` is described by membership (`mem_aset`) and
the iteration of a level splits at any key into the child under that key and the entries under other
keys (`mem_flatten_split`, `mem_flatten_aset`).  From these two facts `idxInsert` and `idxErase` get one
lemma each (`insert_spec`, `erase_spec`: the invariant is kept, the iterated rules change by exactly the
rule), and `mem_bucketOf_iff` says that a bucket is the filter of the iteration by key fields.  The
stored `size` needs no induction of its own: the iteration is duplicate-free (`flatten_nodup`), so its
length is fixed by its members.
-/
namespace Casbin.C19
open Casbin.Fast

theorem alookup_aset {β : Type} (k k' : String) (v : β) (l : List (String × β)) :
    alookup k' (aset k v l) = if k = k' then some v else alookup k' l := by
  fun_induction aset k v l <;> grind [alookup]

/-- `d[k] = w` on a missing key appends the entry -/
theorem aset_of_none {β : Type} (k : String) (w : β) (l : List (String × β)) (h : alookup k l = none) :
    aset k w l = l ++ [(k, w)] := by
  fun_induction aset k w l <;> grind [alookup]

/-- `d[k] = w` on a present key overwrites the first entry under `k`, in place -/
theorem aset_append_cons {β : Type} (k : String) (w v : β) (l1 l2 : List (String × β))
    (h : k ∉ l1.map (·.1)) : aset k w (l1 ++ (k, v) :: l2) = l1 ++ (k, w) :: l2 := by
  induction l1 with
  | nil => simp [aset]
  | cons e l1 ih =>
    rw [List.map_cons, List.mem_cons, not_or] at h
    simp [aset, Ne.symm h.1, ih h.2]

theorem alookup_eq_lookup {β : Type} (k : String) (l : List (String × β)) : alookup k l = l.lookup k := by
  fun_induction alookup k l <;> grind

theorem alookup_none_iff {β : Type} (k : String) (l : List (String × β)) :
    alookup k l = none ↔ k ∉ l.map (·.1) :=
  alookup_eq_lookup k l ▸ lookup_eq_none_iff_keys

/-- with unique keys a dict is its `alookup` -/
theorem alookup_eq_some_iff {β : Type} {k : String} {v : β} {l : List (String × β)}
    (hn : (l.map (·.1)).Nodup) : alookup k l = some v ↔ (k, v) ∈ l :=
  alookup_eq_lookup k l ▸ lookup_eq_some_iff_mem hn

theorem keys_aset {β : Type} (k : String) (w : β) (l : List (String × β)) :
    (aset k w l).map (·.1) = if k ∈ l.map (·.1) then l.map (·.1) else l.map (·.1) ++ [k] := by
  fun_induction aset k w l <;> grind

theorem nodup_keys_aset {β : Type} (k : String) (w : β) {l : List (String × β)}
    (hn : (l.map (·.1)).Nodup) : ((aset k w l).map (·.1)).Nodup := by
  rw [keys_aset]
  split
  · exact hn
  · exact nodup_snoc hn ‹_›

/-- `d[k] = w` on a dict with unique keys -/
theorem mem_aset {β : Type} {k k' : String} {w v : β} {l : List (String × β)} (hn : (l.map (·.1)).Nodup) :
    (k', v) ∈ aset k w l ↔ if k = k' then v = w else (k', v) ∈ l := by
  rw [← alookup_eq_some_iff (nodup_keys_aset k w hn), alookup_aset]
  split
  · simp [eq_comm]
  · exact alookup_eq_some_iff hn

/-- the bucket a key path selects; a miss is the empty bucket (`in_cache(..) or set()`) -/
def bucketOf (n : Nat) (idx : Idx n) (ks : List String) : List Rule := (inCache n idx ks).getD []

theorem bucketOf_zero (rs : Idx 0) (ks : List String) : bucketOf 0 rs ks = rs := rfl

theorem alookup_empty (n : Nat) (k : String) : alookup k (Idx.empty (n + 1) : List (String × Idx n)) = none := rfl

theorem flatten_empty (n : Nat) : flatten n (Idx.empty n) = [] := by
  cases n <;> rfl

theorem bucketOf_empty (n : Nat) (ks : List String) : bucketOf n (Idx.empty n) ks = [] := by
  cases n with
  | zero => rfl
  | succ n => cases ks <;> rfl

/-- the sub-index under a key; the empty one when the key is missing (what `append` creates) -/
def child {n : Nat} (kids : Idx (n + 1)) (k : String) : Idx n :=
  (alookup k (kids : List (String × Idx n))).getD (Idx.empty n)

theorem child_of_some {n : Nat} {kids : Idx (n + 1)} {k : String} {sub : Idx n}
    (h : alookup k (kids : List (String × Idx n)) = some sub) : child kids k = sub := by
  rw [child, h, Option.getD_some]

theorem child_of_none {n : Nat} {kids : Idx (n + 1)} {k : String}
    (h : alookup k (kids : List (String × Idx n)) = none) : child kids k = Idx.empty n := by
  rw [child, h, Option.getD_none]

theorem bucketOf_succ (n : Nat) (kids : Idx (n + 1)) (k : String) (ks : List String) :
    bucketOf (n + 1) kids (k :: ks) = bucketOf n (child kids k) ks := by
  unfold bucketOf child
  simp only [inCache]
  cases alookup k (kids : List (String × Idx n)) with
  | none => exact (bucketOf_empty n ks).symm
  | some sub => rfl

theorem idxInsert_succ (n : Nat) (kids : Idx (n + 1)) (k : String) (ks : List String) (r : Rule) :
    idxInsert (n + 1) kids (k :: ks) r =
      (aset k (idxInsert n (child kids k) ks r) kids : List (String × Idx n)) := by
  unfold child
  simp only [idxInsert]
  cases alookup k (kids : List (String × Idx n)) <;> rfl

theorem child_aset {n : Nat} (kids : Idx (n + 1)) (k k' : String) (w : Idx n) :
    child (aset k w kids : List (String × Idx n)) k' = if k = k' then w else child kids k' := by
  unfold child
  rw [alookup_aset]
  split <;> rfl

theorem mem_flatten_succ {n : Nat} {kids : Idx (n + 1)} {x : Rule} :
    x ∈ flatten (n + 1) kids ↔ ∃ kv ∈ (kids : List (String × Idx n)), x ∈ flatten n kv.2 := by
  simp only [flatten, List.mem_flatMap]

theorem mem_flatten_split {n : Nat} {kids : Idx (n + 1)} (hn : ((kids : List (String × Idx n)).map (·.1)).Nodup)
    (k : String) (x : Rule) :
    x ∈ flatten (n + 1) kids ↔
      x ∈ flatten n (child kids k) ∨ ∃ kv ∈ (kids : List (String × Idx n)), kv.1 ≠ k ∧ x ∈ flatten n kv.2 := by
  rw [mem_flatten_succ]
  constructor
  · rintro ⟨⟨k', v⟩, hkv, hx⟩
    by_cases hk : k' = k
    · subst hk; rw [child_of_some ((alookup_eq_some_iff hn).mpr hkv)]; exact Or.inl hx
    · exact Or.inr ⟨_, hkv, hk, hx⟩
  · rintro (hx | ⟨kv, hkv, _, hx⟩)
    · cases hl : alookup k (kids : List (String × Idx n)) with
      | none => rw [child_of_none hl, flatten_empty] at hx; cases hx
      | some v => rw [child_of_some hl] at hx; exact ⟨_, (alookup_eq_some_iff hn).mp hl, hx⟩
    · exact ⟨kv, hkv, hx⟩

theorem mem_flatten_aset {n : Nat} {kids : Idx (n + 1)} (hn : ((kids : List (String × Idx n)).map (·.1)).Nodup)
    (k : String) (w : Idx n) (x : Rule) :
    x ∈ flatten (n + 1) (aset k w kids : List (String × Idx n)) ↔
      x ∈ flatten n w ∨ ∃ kv ∈ (kids : List (String × Idx n)), kv.1 ≠ k ∧ x ∈ flatten n kv.2 := by
  rw [mem_flatten_split (nodup_keys_aset k w hn) k, child_aset, if_pos rfl]
  refine or_congr_right (exists_congr fun kv => and_congr_left fun ⟨hk, _⟩ => ?_)
  rw [mem_aset hn, if_neg (Ne.symm hk)]

/-- unique dict keys, duplicate-free sets, and every rule sits in the bucket named by its own key fields -/
def Good (order : List Nat) : (n : Nat) → List String → Idx n → Prop
  | 0, pre, rs => (rs : List Rule).Nodup ∧ ∀ r ∈ (rs : List Rule), keysOf order r = some pre
  | n + 1, pre, kids => ((kids : List (String × Idx n)).map (·.1)).Nodup ∧
      ∀ kv ∈ (kids : List (String × Idx n)), Good order n (pre ++ [kv.1]) kv.2

theorem good_empty (order : List Nat) (n : Nat) (pre : List String) : Good order n pre (Idx.empty n) := by
  cases n <;> simp [Good, Idx.empty]

theorem good_child {order : List Nat} {n : Nat} {pre : List String} {kids : Idx (n + 1)}
    (hg : Good order (n + 1) pre kids) (k : String) : Good order n (pre ++ [k]) (child kids k) := by
  cases hl : alookup k (kids : List (String × Idx n)) with
  | none => rw [child_of_none hl]; exact good_empty _ _ _
  | some v => rw [child_of_some hl]; exact hg.2 _ ((alookup_eq_some_iff hg.1).mp hl)

theorem good_aset {order : List Nat} {n : Nat} {pre : List String} {kids : Idx (n + 1)}
    (hg : Good order (n + 1) pre kids) {k : String} {w : Idx n} (hw : Good order n (pre ++ [k]) w) :
    Good order (n + 1) pre (aset k w kids : List (String × Idx n)) := by
  refine ⟨nodup_keys_aset k w hg.1, fun ⟨k', v⟩ hkv => ?_⟩
  rw [mem_aset hg.1] at hkv
  split at hkv
  · rename_i hk; subst hk hkv; exact hw
  · exact hg.2 _ hkv

/-- an iterated rule has its key fields, and they spell the path to its bucket -/
theorem keys_of_mem_flatten {order : List Nat} {n : Nat} {pre : List String} {idx : Idx n} {x : Rule}
    (hg : Good order n pre idx) (hx : x ∈ flatten n idx) :
    ∃ ks, ks.length = n ∧ keysOf order x = some (pre ++ ks) := by
  induction n generalizing pre with
  | zero => exact ⟨[], rfl, by simpa using hg.2 x hx⟩
  | succ n ih =>
    obtain ⟨kv, hkv, hx⟩ := mem_flatten_succ.mp hx
    obtain ⟨ks, hl, hk⟩ := ih (hg.2 kv hkv) hx
    exact ⟨kv.1 :: ks, by simp [hl], by simpa using hk⟩

/-- the dict key above an iterated rule is the next of the rule's own key fields -/
theorem key_of_mem_flatten {order : List Nat} {n : Nat} {pre : List String} {kids : Idx (n + 1)}
    {kv : String × Idx n} {x : Rule} {k : String} {ks : List String} (hg : Good order (n + 1) pre kids)
    (hkv : kv ∈ (kids : List (String × Idx n))) (hx : x ∈ flatten n kv.2)
    (hk : keysOf order x = some (pre ++ k :: ks)) : kv.1 = k := by
  obtain ⟨ks', _, hk'⟩ := keys_of_mem_flatten (hg.2 kv hkv) hx
  rw [hk] at hk'
  simp at hk'
  exact hk'.1.symm

/-- bucket = filter: the bucket a key path selects holds exactly the iterated rules whose key fields
    are that path (`in_cache` ignores surplus keys and misses on a path that is too short) -/
theorem mem_bucketOf_iff {order : List Nat} {n : Nat} {pre : List String} {idx : Idx n}
    (hg : Good order n pre idx) (ks : List String) (x : Rule) :
    x ∈ bucketOf n idx ks ↔
      x ∈ flatten n idx ∧ n ≤ ks.length ∧ keysOf order x = some (pre ++ ks.take n) := by
  induction n generalizing pre ks with
  | zero => exact ⟨fun h => ⟨h, Nat.zero_le _, by simpa using hg.2 x h⟩, fun h => h.1⟩
  | succ n ih =>
    cases ks with
    | nil => simp [bucketOf, inCache]
    | cons k ks =>
      rw [bucketOf_succ, ih (good_child hg k), mem_flatten_split hg.1 k]
      simp only [List.length_cons, Nat.add_le_add_iff_right, List.take_succ_cons, List.append_assoc,
        List.singleton_append, and_congr_left_iff, iff_self_or, and_imp]
      rintro _ hk ⟨kv, hkv, hne, hx⟩
      exact absurd (key_of_mem_flatten hg hkv hx hk) hne

theorem flatten_nodup {order : List Nat} {n : Nat} {pre : List String} {idx : Idx n}
    (hg : Good order n pre idx) : (flatten n idx).Nodup := by
  induction n generalizing pre with
  | zero => exact hg.1
  | succ n ih =>
    -- rules under different keys differ in the key field at position `pre.length`
    refine List.pairwise_flatMap.mpr ⟨fun kv hkv => ih (hg.2 kv hkv), ?_⟩
    refine ((List.pairwise_map (l := idx)).mp hg.1).imp_of_mem ?_
    intro a b ha hb hab x hx y hy e
    subst e
    obtain ⟨ks, _, hk⟩ := keys_of_mem_flatten (hg.2 a ha) hx
    exact hab (key_of_mem_flatten hg hb hy (by simpa using hk)).symm

theorem mem_setAdd (rs : List Rule) (r x : Rule) : x ∈ setAdd rs r ↔ x = r ∨ x ∈ rs := mem_setInsert

theorem setAdd_nodup (rs : List Rule) (r : Rule) (h : rs.Nodup) : (setAdd rs r).Nodup := nodup_setInsert h

theorem length_setAdd (rs : List Rule) (r : Rule) :
    (setAdd rs r).length = rs.length + if rs.contains r then 0 else 1 := by
  unfold setAdd
  split <;> simp

theorem insert_spec {order : List Nat} {n : Nat} {pre : List String} {idx : Idx n} {ks : List String} {r : Rule}
    (hg : Good order n pre idx) (h : ks.length = n) (hk : keysOf order r = some (pre ++ ks)) :
    Good order n pre (idxInsert n idx ks r) ∧
      ∀ x, x ∈ flatten n (idxInsert n idx ks r) ↔ x = r ∨ x ∈ flatten n idx := by
  induction n generalizing pre ks with
  | zero =>
    refine ⟨⟨setAdd_nodup _ _ hg.1, fun x hx => ?_⟩, mem_setAdd _ _⟩
    rcases (mem_setAdd _ _ _).mp hx with e | hx
    · subst e; simpa [List.eq_nil_of_length_eq_zero h] using hk
    · exact hg.2 x hx
  | succ n ih =>
    cases ks with
    | nil => simp at h
    | cons k ks =>
      obtain ⟨hg', hm⟩ := ih (good_child hg k) (Nat.succ.inj h) (by simpa using hk)
      rw [idxInsert_succ]
      refine ⟨good_aset hg hg', fun x => ?_⟩
      rw [mem_flatten_aset hg.1, hm, mem_flatten_split hg.1 k, or_assoc]

theorem setRemove_of_mem (rs : List Rule) (r : Rule) (h : r ∈ rs) : setRemove rs r = .ok (rs.erase r) := by
  have : rs.isEmpty = false := by cases rs <;> simp_all
  simp [setRemove, this, h]

theorem erase_spec {order : List Nat} {n : Nat} {pre : List String} {idx : Idx n} {ks : List String} {r : Rule}
    (hg : Good order n pre idx) (hk : keysOf order r = some (pre ++ ks)) (hr : r ∈ flatten n idx) :
    ∃ idx', idxErase n idx ks r = .ok idx' ∧ Good order n pre idx' ∧
      ∀ x, x ∈ flatten n idx' ↔ x ≠ r ∧ x ∈ flatten n idx := by
  induction n generalizing pre ks with
  | zero =>
    exact ⟨_, setRemove_of_mem _ _ hr, ⟨hg.1.erase _, fun x hx => hg.2 x (List.mem_of_mem_erase hx)⟩,
      fun x => hg.1.mem_erase_iff⟩
  | succ n ih =>
    -- the rule lies under the first key of its path, and only there
    obtain ⟨⟨k, sub⟩, hkv, hrs⟩ := mem_flatten_succ.mp hr
    obtain ⟨ks', _, hk'⟩ := keys_of_mem_flatten (hg.2 _ hkv) hrs
    rw [hk] at hk'
    simp at hk'
    subst hk'
    obtain ⟨sub', he, hg', hm⟩ := ih (hg.2 _ hkv) (by simpa using hk) hrs
    have hl := (alookup_eq_some_iff hg.1).mpr hkv
    refine ⟨(aset k sub' idx : List (String × Idx n)), by simp only [idxErase, hl, he], good_aset hg hg', fun x => ?_⟩
    rw [mem_flatten_aset hg.1, hm, mem_flatten_split hg.1 k, child_of_some hl, and_or_left]
    refine or_congr_right (and_iff_right_of_imp ?_).symm
    rintro ⟨kv, hkv', hne, hx⟩ rfl
    exact hne (key_of_mem_flatten hg hkv' hx hk)

theorem keysOf_length (order : List Nat) (item ks : List String) (h : keysOf order item = some ks) :
    ks.length = order.length := by
  induction order generalizing ks with
  | nil => simp [keysOf] at h; subst h; rfl
  | cons x xs ih =>
    simp only [keysOf] at h
    split at h
    · rename_i v vs _ hvs; cases h; simp [ih _ hvs]
    · cases h

theorem keysOf_none_iff (order : List Nat) (item : List String) :
    keysOf order item = none ↔ order.any (fun x => x ≥ item.length) = true := by
  induction order with
  | nil => simp [keysOf]
  | cons x xs ih =>
    rw [List.any_cons, Bool.or_eq_true, ← ih, decide_eq_true_eq, ge_iff_le, ← List.getElem?_eq_none_iff, keysOf]
    cases item[x]? <;> cases keysOf xs item <;> simp

variable {order : List Nat}

theorem bucket_eq (p : FastPolicy order) (keys : List String) :
    p.bucket keys = bucketOf order.length p.cache keys := rfl

/-- the invariant of the indexed container between two calls -/
structure Inv (p : FastPolicy order) : Prop where
  good : Good order order.length [] p.cache
  nofilter : p.filter = none
  size_eq : p.size = (flatten order.length p.cache).length

theorem inv_new (order : List Nat) : Inv (FastPolicy.new order) :=
  ⟨good_empty _ _ _, rfl, by simp [FastPolicy.new, flatten_empty]⟩

theorem iter_eq (p : FastPolicy order) (h : Inv p) : p.iter = flatten order.length p.cache := by
  simp [FastPolicy.iter, h.nofilter]

theorem iter_nodup (p : FastPolicy order) (h : Inv p) : p.iter.Nodup := by
  rw [iter_eq p h]; exact flatten_nodup h.good

theorem bucket_sub_iter (p : FastPolicy order) (h : Inv p) (keys : List String) (x : Rule)
    (hx : x ∈ p.bucket keys) : x ∈ p.iter := by
  rw [iter_eq p h]; exact ((mem_bucketOf_iff h.good keys x).mp hx).1

/-- the bucket selected by a key tuple holds exactly the stored rules whose key
    fields are that tuple -/
theorem bucket_exact (p : FastPolicy order) (h : Inv p) (keys : List String) (hk : keys.length = order.length)
    (x : Rule) : x ∈ p.bucket keys ↔ x ∈ p.iter ∧ keysOf order x = some keys := by
  rw [iter_eq p h, bucket_eq, mem_bucketOf_iff h.good]
  simp [← hk]

/-- `rule in policy` ⇔ the rule is among the iterated rules -/
theorem contains_iff (p : FastPolicy order) (h : Inv p) (x : Rule) :
    p.contains x = true ↔ x ∈ p.iter := by
  unfold FastPolicy.contains
  cases hk : keysOf order x with
  | none =>
    simp only [(keysOf_none_iff order x).mp hk, ↓reduceIte, Bool.false_eq_true, false_iff]
    intro hx
    rw [iter_eq p h] at hx
    obtain ⟨_, _, hk'⟩ := keys_of_mem_flatten h.good hx
    rw [hk] at hk'; cases hk'
  | some keys =>
    have : ¬ (order.any (fun y => y ≥ x.length) = true) := by rw [← keysOf_none_iff, hk]; simp
    simp [this, bucket_exact p h keys (keysOf_length _ _ _ hk), hk]

theorem append_ok_iff (p : FastPolicy order) (r : Rule) :
    (∃ p', p.append r = .ok p') ↔ order ≠ [] ∧ order.any (fun y => y ≥ r.length) = false := by
  unfold FastPolicy.append
  cases hk : keysOf order r with
  | none => simp [(keysOf_none_iff order r).mp hk]
  | some keys =>
    have : order.any (fun y => y ≥ r.length) = false := by rw [← Bool.not_eq_true, ← keysOf_none_iff, hk]; simp
    rw [this]
    cases order <;> simp

theorem length_eq_of_mem_iff {l l' : List Rule} (hl : l.Nodup) (hl' : l'.Nodup) (h : ∀ x, x ∈ l' ↔ x ∈ l) :
    l'.length = l.length :=
  ((List.perm_ext_iff_of_nodup hl' hl).mpr h).length_eq

theorem append_spec (p p' : FastPolicy order) (r : Rule) (h : Inv p) (ha : p.append r = .ok p') :
    Inv p' ∧ ∀ x, x ∈ p'.iter ↔ x = r ∨ x ∈ p.iter := by
  unfold FastPolicy.append at ha
  split at ha
  · cases ha
  · rename_i keys hk
    split at ha <;> cases ha
    have hl := keysOf_length _ _ _ hk
    obtain ⟨hg', hm⟩ := insert_spec h.good hl (by simpa using hk)
    refine ⟨⟨hg', h.nofilter, ?_⟩, by simpa only [FastPolicy.iter, h.nofilter] using hm⟩
    -- the new iteration holds the rules of `setAdd` on the old one
    have hnd := flatten_nodup h.good
    rw [length_eq_of_mem_iff (setAdd_nodup _ r hnd) (flatten_nodup hg') fun x => by rw [hm, mem_setAdd],
      length_setAdd]
    simp only [List.contains_iff_mem, bucket_exact p h keys hl, hk, and_true, iter_eq p h, h.size_eq]
    split <;> rfl

theorem remove_spec (p : FastPolicy order) (r : Rule) (hne : order ≠ []) (h : Inv p) (hr : r ∈ p.iter) :
    ∃ p', p.remove r = .ok p' ∧ Inv p' ∧ ∀ x, x ∈ p'.iter ↔ x ≠ r ∧ x ∈ p.iter := by
  rw [iter_eq p h] at hr ⊢
  obtain ⟨keys, hl, hk⟩ := keys_of_mem_flatten h.good hr
  obtain ⟨c, hc, hg', hm⟩ := erase_spec h.good hk hr
  simp only [List.nil_append] at hk
  have hemp : order.isEmpty = false := by cases order <;> simp_all
  have hnd := flatten_nodup h.good
  have hb : (p.bucket keys).contains r = true := by
    simp only [List.contains_iff_mem, bucket_exact p h keys hl, hk, and_true, iter_eq p h, hr]
  have hrem : p.remove r = .ok { p with cache := c, size := p.size - 1 } := by
    simp only [FastPolicy.remove, hk, hemp, hc, hb]; rfl
  refine ⟨_, hrem, ⟨hg', h.nofilter, ?_⟩, by simpa only [FastPolicy.iter, h.nofilter] using hm⟩
  -- the new iteration holds the rules of `erase` on the old one
  rw [length_eq_of_mem_iff (hnd.erase r) (flatten_nodup hg') fun x => by rw [hm, hnd.mem_erase_iff]]
  simp only [h.size_eq, List.length_erase_of_mem hr]

/-! ## What `append` and `remove` do to each bucket, with no invariant assumed -/

theorem bucketOf_idxInsert (n : Nat) (idx : Idx n) (ks ks' : List String) (r : Rule)
    (h : ks.length = n) (h' : ks'.length = n) :
    bucketOf n (idxInsert n idx ks r) ks' = if ks' = ks then setAdd (bucketOf n idx ks) r else bucketOf n idx ks' := by
  induction n generalizing ks ks' with
  | zero => simp [List.eq_nil_of_length_eq_zero h, List.eq_nil_of_length_eq_zero h', bucketOf_zero, idxInsert]
  | succ n ih =>
    match ks, ks', h, h' with
    | k :: ks, k' :: ks', h, h' =>
      rw [idxInsert_succ, bucketOf_succ, bucketOf_succ, bucketOf_succ, child_aset]
      by_cases hk : k = k'
      · subst hk; simp [ih _ _ _ (Nat.succ.inj h) (Nat.succ.inj h')]
      · simp [hk, Ne.symm hk]

theorem setRemove_ok (rs : List Rule) (r : Rule) (rs' : List Rule) (h : setRemove rs r = .ok rs') :
    rs' = rs.erase r := by
  unfold setRemove at h
  split at h
  · cases h; cases rs <;> simp_all
  · split at h
    · cases h; rfl
    · cases h

theorem bucketOf_idxErase (n : Nat) (idx idx' : Idx n) (ks ks' : List String) (r : Rule)
    (h : ks.length = n) (h' : ks'.length = n) (he : idxErase n idx ks r = .ok idx') :
    bucketOf n idx' ks' = if ks' = ks then (bucketOf n idx ks).erase r else bucketOf n idx ks' := by
  induction n generalizing ks ks' with
  | zero =>
    simp [List.eq_nil_of_length_eq_zero h, List.eq_nil_of_length_eq_zero h', bucketOf_zero,
      setRemove_ok _ _ _ he]
  | succ n ih =>
    match ks, ks', h, h' with
    | k :: ks, k' :: ks', h, h' =>
      simp only [idxErase] at he
      rw [bucketOf_succ, bucketOf_succ, bucketOf_succ]
      cases hl : alookup k (idx : List (String × Idx n)) with
      | none =>
        simp only [hl] at he; cases he
        split
        · next e => cases e; rw [child_of_none hl, bucketOf_empty]; rfl
        · rfl
      | some sub =>
        simp only [hl] at he
        cases hs : idxErase n sub ks r with
        | error e => simp [hs] at he
        | ok sub' =>
          simp only [hs] at he; cases he
          rw [child_aset]
          by_cases hk : k = k'
          · subst hk; simp [ih _ _ _ _ (Nat.succ.inj h) (Nat.succ.inj h') hs, child_of_some hl]
          · simp [hk, Ne.symm hk]

end Casbin.C19
