import CasbinV.Model.RWLock
/-!
# Counter abstraction of the readers-writer lock: the transition system (helper of C16)

`CStep` is the counter-abstracted transition system of the expected lock program (`RW.expected`): one constructor per
instruction-level step kind, guards and updates read off the instruction lists. `Proofs/RWLockInv.lean` proves its
inductive invariant, `Proofs/RWLockSim.lean` that every step of the instruction-list interpreter on `expected` is one
of these; neither needs the other.
-/
namespace Casbin.C16
open Casbin.RW

/-- names of the transitions; `rStart`/`wStart` (a thread begins a round) and `rSpur`/`wSpur` (spurious wake-up) are
    not progress -/
inductive Lbl
  | rStart | rLock | rRelock | rWait | rPass | rInc | rUnlock | rSpur | rrStart | rrLock | rrDec | rrIfT | rrIfF | rrNotify | rrUnlock | wStart | wLock | wReg | wWait | wPass | wRelock | wSpur | wDec | wSet | wUnlock | wrStart | wrLock | wrClear | wrNotify | wrUnlock
  deriving DecidableEq, Repr

def Lbl.progress : Lbl → Bool
  | .rStart | .wStart | .rSpur | .wSpur => false
  | _ => true

inductive CStep : Lbl → CS → CS → Prop
  -- aquire_read
  | rStart (s : CS) : 0 < s.idle → CStep .rStart s { s with idle := s.idle - 1, rW := s.rW + 1 }
  | rLock (s : CS) : 0 < s.rW → s.holders = 0 → CStep .rLock s { s with rW := s.rW - 1, rH0 := s.rH0 + 1 }
  | rRelock (s : CS) : 0 < s.rN → s.holders = 0 → CStep .rRelock s { s with rN := s.rN - 1, rH0 := s.rH0 + 1 }
  | rWait (s : CS) : 0 < s.rH0 → (0 < s.ww ∨ 0 < s.wa) → CStep .rWait s { s with rH0 := s.rH0 - 1, rS := s.rS + 1 }
  | rPass (s : CS) : 0 < s.rH0 → ¬ (0 < s.ww ∨ 0 < s.wa) → CStep .rPass s { s with rH0 := s.rH0 - 1, rH1 := s.rH1 + 1 }
  | rInc (s : CS) : 0 < s.rH1 → CStep .rInc s { s with rH1 := s.rH1 - 1, rH2 := s.rH2 + 1, ar := s.ar + 1 }
  | rUnlock (s : CS) : 0 < s.rH2 → CStep .rUnlock s { s with rH2 := s.rH2 - 1, rIn := s.rIn + 1 }
  | rSpur (s : CS) : 0 < s.rS → CStep .rSpur s { s with rS := s.rS - 1, rN := s.rN + 1 }
  -- release_read
  | rrStart (s : CS) : 0 < s.rIn → CStep .rrStart s { s with rIn := s.rIn - 1, rrW := s.rrW + 1 }
  | rrLock (s : CS) : 0 < s.rrW → s.holders = 0 → CStep .rrLock s { s with rrW := s.rrW - 1, rrH0 := s.rrH0 + 1 }
  | rrDec (s : CS) : 0 < s.rrH0 → CStep .rrDec s { s with rrH0 := s.rrH0 - 1, rrH1 := s.rrH1 + 1, ar := s.ar - 1 }
  | rrIfT (s : CS) : 0 < s.rrH1 → s.ar = 0 → CStep .rrIfT s { s with rrH1 := s.rrH1 - 1, rrH1n := s.rrH1n + 1 }
  | rrIfF (s : CS) : 0 < s.rrH1 → s.ar ≠ 0 → CStep .rrIfF s { s with rrH1 := s.rrH1 - 1, rrH2 := s.rrH2 + 1 }
  | rrNotify (s : CS) : 0 < s.rrH1n →
      CStep .rrNotify s { s with rrH1n := s.rrH1n - 1, rrH2 := s.rrH2 + 1, rN := s.rN + s.rS, rS := 0, wN := s.wN + s.wS, wS := 0 }
  | rrUnlock (s : CS) : 0 < s.rrH2 → CStep .rrUnlock s { s with rrH2 := s.rrH2 - 1, idle := s.idle + 1 }
  -- aquire_write
  | wStart (s : CS) : 0 < s.idle → CStep .wStart s { s with idle := s.idle - 1, wW := s.wW + 1 }
  | wLock (s : CS) : 0 < s.wW → s.holders = 0 → CStep .wLock s { s with wW := s.wW - 1, wH0 := s.wH0 + 1 }
  | wReg (s : CS) : 0 < s.wH0 → CStep .wReg s { s with wH0 := s.wH0 - 1, wH1 := s.wH1 + 1, ww := s.ww + 1 }
  | wWait (s : CS) : 0 < s.wH1 → (0 < s.ar ∨ 0 < s.wa) → CStep .wWait s { s with wH1 := s.wH1 - 1, wS := s.wS + 1 }
  | wPass (s : CS) : 0 < s.wH1 → ¬ (0 < s.ar ∨ 0 < s.wa) → CStep .wPass s { s with wH1 := s.wH1 - 1, wH2 := s.wH2 + 1 }
  | wRelock (s : CS) : 0 < s.wN → s.holders = 0 → CStep .wRelock s { s with wN := s.wN - 1, wH1 := s.wH1 + 1 }
  | wSpur (s : CS) : 0 < s.wS → CStep .wSpur s { s with wS := s.wS - 1, wN := s.wN + 1 }
  | wDec (s : CS) : 0 < s.wH2 → CStep .wDec s { s with wH2 := s.wH2 - 1, wH3 := s.wH3 + 1, ww := s.ww - 1 }
  | wSet (s : CS) : 0 < s.wH3 → CStep .wSet s { s with wH3 := s.wH3 - 1, wH4 := s.wH4 + 1, wa := 1 }
  | wUnlock (s : CS) : 0 < s.wH4 → CStep .wUnlock s { s with wH4 := s.wH4 - 1, wIn := s.wIn + 1 }
  -- release_write
  | wrStart (s : CS) : 0 < s.wIn → CStep .wrStart s { s with wIn := s.wIn - 1, wrW := s.wrW + 1 }
  | wrLock (s : CS) : 0 < s.wrW → s.holders = 0 → CStep .wrLock s { s with wrW := s.wrW - 1, wrH0 := s.wrH0 + 1 }
  | wrClear (s : CS) : 0 < s.wrH0 → CStep .wrClear s { s with wrH0 := s.wrH0 - 1, wrH1 := s.wrH1 + 1, wa := 0 }
  | wrNotify (s : CS) : 0 < s.wrH1 →
      CStep .wrNotify s { s with wrH1 := s.wrH1 - 1, wrH2 := s.wrH2 + 1, rN := s.rN + s.rS, rS := 0, wN := s.wN + s.wS, wS := 0 }
  | wrUnlock (s : CS) : 0 < s.wrH2 → CStep .wrUnlock s { s with wrH2 := s.wrH2 - 1, idle := s.idle + 1 }

/-- `n` threads, all outside -/
def cinit (n : Nat) : CS :=
  { ar := 0, ww := 0, wa := 0, idle := n, rW := 0, rH0 := 0, rS := 0, rN := 0, rH1 := 0, rH2 := 0, rIn := 0,
    rrW := 0, rrH0 := 0, rrH1 := 0, rrH1n := 0, rrH2 := 0, wW := 0, wH0 := 0, wH1 := 0, wS := 0, wN := 0, wH2 := 0,
    wH3 := 0, wH4 := 0, wIn := 0, wrW := 0, wrH0 := 0, wrH1 := 0, wrH2 := 0 }

inductive Reach (n : Nat) : CS → Prop
  | init : Reach n (cinit n)
  | step {l : Lbl} {s t : CS} : Reach n s → CStep l s t → Reach n t

end Casbin.C16
