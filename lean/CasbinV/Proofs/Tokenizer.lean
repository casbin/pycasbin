import CasbinV.Model.Persist
import CasbinV.Spec.Persist
import CasbinV.Proofs.PyStr
/-!
# The tokenizer of `load_policy_line`

The character loop `tokLoop` carries the token list and appends to its last entry; `scan` is the same loop without the
accumulator.  Everything C10 and C12 say about lines is proved of `scan`.
-/
namespace Casbin.C10
open Casbin.Py Casbin.Persist Casbin.Persist.Spec

abbrev Scanned := Except Err (Str × List Str)

def onTok (g : Str → Str) : Scanned → Scanned
  | .ok (t, ts) => .ok (g t, ts)
  | .error e => .error e

/-- a top-level comma: what was scanned becomes further tokens, the current token ends here -/
def newTok : Scanned → Scanned
  | .ok (t, ts) => .ok ([], t :: ts)
  | .error e => .error e

/-- the rest of the current token and the further tokens -/
def scan : Nat → Str → Scanned
  | _, [] => .ok ([], [])
  | d, c :: s =>
    if isOpen c then onTok (c :: ·) (scan (d + 1) s)
    else if isClose c then
      match d with
      | 0 => .error .indexError
      | d' + 1 => onTok (c :: ·) (scan d' s)
    else if c == ',' && d == 0 then newTok (scan d s)
    else onTok (c :: ·) (scan d s)

def toToks (first : Str → Str) : Scanned → Except Err (List Str)
  | .ok (t, more) => .ok (first t :: more)
  | .error e => .error e

def glue (ts : List Str) (cur : Str) : Scanned → Except Err (List Str)
  | .ok (t, more) => .ok (ts ++ [cur ++ t] ++ more)
  | .error e => .error e

theorem glue_onTok (ts : List Str) (cur : Str) (c : Char) (x : Scanned) :
    glue ts (cur ++ [c]) x = glue ts cur (onTok (c :: ·) x) := by
  cases x <;> simp [glue, onTok]

theorem glue_newTok (ts : List Str) (cur : Str) (x : Scanned) :
    glue (ts ++ [cur]) [] x = glue ts cur (newTok x) := by
  cases x <;> simp [glue, newTok]

theorem glue_nil (cur : Str) (x : Scanned) : glue [] cur x = toToks (cur ++ ·) x := by
  cases x <;> simp [glue, toToks]

theorem appendLast_snoc (ts : List Str) (cur : Str) (c : Char) :
    appendLast (ts ++ [cur]) c = .ok (ts ++ [cur ++ [c]]) := by
  induction ts with
  | nil => rfl
  | cons t ts ih => cases ts <;> simp_all [appendLast]

theorem tokLoop_snoc (s : Str) (d : Nat) (ts : List Str) (cur : Str) :
    tokLoop s d (ts ++ [cur]) = glue ts cur (scan d s) := by
  fun_induction scan d s generalizing ts cur with
  | case1 => simp [tokLoop, glue]
  | case2 d c s ho ih => simp [tokLoop, ho, appendLast_snoc, ih, glue_onTok]
  | case3 c s ho hc => simp [tokLoop, ho, hc, glue]
  | case4 c s ho hc d ih => simp [tokLoop, ho, hc, appendLast_snoc, ih, glue_onTok]
  | case5 d c s ho hc hk ih =>
    simp only [tokLoop, ho, hc, hk, Bool.false_eq_true, ↓reduceIte, ih (ts ++ [cur]) [], glue_newTok]
  | case6 d c s ho hc hk ih => simp [tokLoop, ho, hc, hk, appendLast_snoc, ih, glue_onTok]

/-- the loop of `load_policy_line` on a non-empty line: a first bracket raises, a first comma is dropped, and from
    then on the loop is the scanner -/
theorem tokLoop_eq_scan (c : Char) (s : Str) :
    tokLoop (c :: s) 0 [] =
      if isOpen c || isClose c then .error .indexError
      else toToks (fun t => if c == ',' then t else c :: t) (scan 0 s) := by
  have h : ∀ cur, tokLoop s 0 [cur] = toToks (cur ++ ·) (scan 0 s) := fun cur =>
    (tokLoop_snoc s 0 [] cur).trans (glue_nil cur _)
  unfold tokLoop
  by_cases ho : isOpen c = true
  · simp [ho, appendLast]
  · by_cases hc : isClose c = true
    · simp [ho, hc]
    · by_cases hk : (c == ',') = true <;> simp [ho, hc, hk, h]

theorem tokLoop_of_plain {c : Char} (s : Str) (ho : isOpen c = false) (hc : isClose c = false) (hk : c ≠ ',') :
    tokLoop (c :: s) 0 [] = toToks id (scan 0 (c :: s)) := by
  rw [tokLoop_eq_scan, scan]
  cases scan 0 s <;> simp [ho, hc, hk, onTok, toToks]

theorem parseLine_skip {l : Str} (h : (l.isEmpty || l.take 1 == ['#']) = true) : parseLine l = .ok none := by
  unfold parseLine
  by_cases h0 : l.isEmpty = true <;> simp_all

/-- the loader is the tokenizer `split_line` followed by the two `IndexError` checks -/
theorem parseLine_eq_splitLine (l : Str) (h : (l.isEmpty || l.take 1 == ['#']) = false) :
    parseLine l =
      match splitLine l with
      | .error e => .error e
      | .ok [] => .error .indexError
      | .ok ([] :: _) => .error .indexError
      | .ok (key :: rule) => .ok (some (key, rule)) := by
  simp only [Bool.or_eq_false_iff] at h
  unfold parseLine splitLine
  simp only [h.1, h.2, Bool.false_eq_true, ↓reduceIte]
  cases tokLoop l 0 [] with
  | error e => rfl
  | ok toks =>
    simp only
    cases toks.map strip with
    | nil => rfl
    | cons k r => cases k <;> rfl

theorem splitLine_of_parseLine {l k : Str} {r : Rule} (h : parseLine l = .ok (some (k, r))) :
    (l.isEmpty || l.take 1 == ['#']) = false ∧ splitLine l = .ok (k :: r) ∧ k ≠ [] := by
  cases hs : (l.isEmpty || l.take 1 == ['#']) with
  | true => simp [parseLine_skip hs] at h
  | false =>
    rw [parseLine_eq_splitLine l hs] at h
    split at h <;> simp_all

theorem onTok_onTok (g h : Str → Str) (x : Scanned) : onTok g (onTok h x) = onTok (fun t => g (h t)) x := by
  cases x <;> rfl

theorem onTok_id (x : Scanned) : onTok (fun t => t) x = x := by cases x <;> rfl

/-- a balanced field without top-level comma is swallowed whole by the scanner, at any depth it balances from -/
theorem scan_field (f : Str) (d : Nat) (rest : Str) (h : fieldScan d f = true) :
    scan d (f ++ rest) = onTok (f ++ ·) (scan 0 rest) := by
  fun_induction fieldScan d f with
  | case1 d => simp_all [onTok_id]
  | case2 d c s ho ih => simp [scan, ho, ih h, onTok_onTok]
  | case3 => simp at h
  | case4 c s ho hc d ih => simp [scan, ho, hc, ih h, onTok_onTok]
  | case5 d c s ho hc hk ih =>
    simp only [Bool.and_eq_true, bne_iff_ne, ne_eq] at h
    simp [scan, ho, hc, hk, h.1, ih h.2, onTok_onTok]
  | case6 d c s ho hc hk ih =>
    simp only [Bool.and_eq_true] at h
    simp [scan, ho, hc, hk, ih h.2, onTok_onTok]

/-- the part of a line after the type name: every further token with its comma -/
def pieces (ws : List Str) : Str := ws.flatMap fun w => ',' :: w

theorem scan_pieces (k0 : Str) (ws : List Str) (hk : fieldScan 0 k0 = true)
    (hw : ∀ w ∈ ws, fieldScan 0 w = true) : scan 0 (k0 ++ pieces ws) = .ok (k0, ws) := by
  induction ws generalizing k0 with
  | nil => simpa [pieces, scan, onTok] using scan_field k0 0 [] hk
  | cons w ws ih =>
    have h1 : pieces (w :: ws) = ',' :: (w ++ pieces ws) := by simp [pieces]
    have h2 : scan 0 (',' :: (w ++ pieces ws)) = newTok (scan 0 (w ++ pieces ws)) := by
      rw [scan]; simp [isOpen, isClose]
    rw [scan_field k0 0 _ hk, h1, h2, ih w (hw w (by simp)) fun x hx => hw x (by simp [hx])]
    simp [newTok, onTok]

theorem keyOK_iff {k : Str} :
    keyOK k = true ↔ ∃ c k', k = c :: k' ∧ c ≠ '#' ∧
      ∀ x ∈ k, isSpace x = false ∧ x ≠ ',' ∧ isOpen x = false ∧ isClose x = false := by
  cases k <;> simp [keyOK, and_assoc]

theorem fieldScan_plain (k : Str)
    (h : ∀ c ∈ k, isSpace c = false ∧ c ≠ ',' ∧ isOpen c = false ∧ isClose c = false) : fieldScan 0 k = true := by
  induction k with
  | nil => rfl
  | cons c k ih =>
    obtain ⟨hs, hk, ho, hc⟩ := h c (by simp)
    have hnl : c ≠ '\n' := by rintro rfl; simp [isSpace] at hs
    simp [fieldScan, ho, hc, hk, hnl, ih fun x hx => h x (by simp [hx])]

/-- tokenizing a type name followed by comma-led fields (the shape of every saved line, before and after `strip`):
    the fields come back trimmed, in order -/
theorem parseLine_pieces (k : Str) (ws : List Str) (hk : keyOK k = true)
    (hw : ∀ w ∈ ws, fieldScan 0 w = true) :
    parseLine (k ++ pieces ws) = .ok (some (k, ws.map strip)) := by
  obtain ⟨c, k, rfl, hh, hp⟩ := keyOK_iff.mp hk
  have hstrip : strip (c :: k) = c :: k := strip_of_no_space fun x hx => (hp x hx).1
  obtain ⟨_, hcm, ho, hc⟩ := hp c (by simp)
  rw [parseLine_eq_splitLine _ (by simp [hh]), splitLine, List.cons_append, tokLoop_of_plain _ ho hc hcm,
    ← List.cons_append, scan_pieces _ ws (fieldScan_plain _ hp) hw]
  simp [toToks, hstrip]

theorem ne_comma_of_bracket {c : Char} (h : isOpen c = true ∨ isClose c = true) : (c == ',') = false := by
  rw [beq_eq_false_iff_ne]; rintro rfl; revert h; decide

/-- the scanner against the specification's `splitTop ∘ annotate`, on every line that never closes a bracket it did
    not open (where it does, the scanner raises) -/
theorem scan_eq_spec (l : Str) (d : Nat) (h : neverNegative d l = true) :
    ∃ t ts, scan d l = .ok (t, ts) ∧ splitTop (annotate d l) = t :: ts := by
  fun_induction neverNegative d l with
  | case1 => exact ⟨[], [], rfl, rfl⟩
  | case2 d c s ho ih =>
    obtain ⟨t, ts, h1, h2⟩ := ih h
    exact ⟨c :: t, ts, by simp [scan, ho, h1, onTok],
      by simp [annotate, splitTop, ho, h2, ne_comma_of_bracket (.inl ho)]⟩
  | case3 => simp at h
  | case4 c s ho hc d ih =>
    obtain ⟨t, ts, h1, h2⟩ := ih h
    exact ⟨c :: t, ts, by simp [scan, ho, hc, h1, onTok],
      by simp [annotate, splitTop, ho, hc, h2, ne_comma_of_bracket (.inr hc)]⟩
  | case5 d c s ho hc ih =>
    obtain ⟨t, ts, h1, h2⟩ := ih h
    by_cases hk : (c == ',' && d == 0) = true
    · exact ⟨[], t :: ts, by simp [scan, ho, hc, hk, h1, newTok], by simp [annotate, splitTop, ho, hc, hk, h2]⟩
    · exact ⟨c :: t, ts, by simp [scan, ho, hc, hk, h1, onTok], by simp [annotate, splitTop, ho, hc, hk, h2]⟩

/-- C10, the tokenizer is the declarative split: on every line of the grammar `type, field, …` (`lineWF`)
    `load_policy_line` skips exactly the empty and the comment lines and otherwise yields the trimmed top-level
    comma split, first field = policy type -/
theorem parseLine_eq_spec (l : Str) (h : lineWF l = true) : parseLine l = .ok (specLine l) := by
  cases l with
  | nil => rfl
  | cons c s =>
    by_cases hh : c = '#'
    · simp [parseLine_skip, specLine, hh]
    · have hh' : (c == '#') = false := by simpa using hh
      unfold lineWF at h
      simp only [hh', Bool.false_or, Bool.and_eq_true, bne_iff_ne, ne_eq, Bool.not_eq_true'] at h
      obtain ⟨⟨⟨⟨hcm, ho⟩, hcl⟩, hnn⟩, hkey⟩ := h
      obtain ⟨t, ts, h1, h2⟩ := scan_eq_spec (c :: s) 0 hnn
      rw [parseLine_eq_splitLine _ (by simp [hh]), splitLine, tokLoop_of_plain s ho hcl hcm, h1]
      simp only [specLine, specFields, h2, toToks] at hkey ⊢
      cases hk : strip t <;> simp_all

theorem splitLine_ne_nil (c : Char) (s : Str) : splitLine (c :: s) ≠ .ok [] := by
  unfold splitLine
  rw [tokLoop_eq_scan]
  by_cases hb : (isOpen c || isClose c) = true
  · simp [hb]
  · cases scan 0 s <;> simp [hb, toToks]

end Casbin.C10
