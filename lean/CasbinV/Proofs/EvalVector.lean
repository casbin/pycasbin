/-- A concrete test vector, by kernel evaluation. The kernel decodes a string literal from its UTF-8 bytes, in time
    quadratic in its length, and for most vectors that is dearer than running the model on them;
    `String.toList_ofList` puts the characters of each `"…".toList` into the goal first, without evaluation (the
    literal unifies with `String.ofList _`, which is checked in linear time). A literal inside a definition has to
    be brought into the goal by `unfold` beforehand. -/
macro "eval_vector" : tactic => `(tactic| ((repeat rewrite [String.toList_ofList]); decide +kernel))
