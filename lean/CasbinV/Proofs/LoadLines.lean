import CasbinV.Proofs.Tokenizer
/-!
# Loading a list of lines

One theorem, `loadLines_lineStep`, says what the line loop leaves in the model for every list of lines and every
keep-predicate; the full load of the file and string adapters (C10) is the case "keep everything", the filtered load
(C12) the case `keeps f`. The definitions the loop theorem is stated with (`lineStep`, `goodPrefix`, `firstError`) carry
C12's names and C10's theorems are instances, hence the namespace switches.
-/
namespace Casbin.C10
open Casbin.Py Casbin.Persist Casbin.Persist.Spec

theorem rulesOf_nil (key : Str) : rulesOf [] key = [] := rfl

theorem rulesOf_cons (k : Str) (r : Rule) (kr : List (Str × Rule)) (key : Str) :
    rulesOf ((k, r) :: kr) key = if k == key then r :: rulesOf kr key else rulesOf kr key := by
  unfold rulesOf
  by_cases h : (k == key) = true <;> simp [h]

theorem rulesOf_append (a b : List (Str × Rule)) (k : Str) : rulesOf (a ++ b) k = rulesOf a k ++ rulesOf b k := by
  simp [rulesOf]

theorem append_unknown (m : Store) (k : Str) (r : Rule) (h : m.hasKey k = false) : m.append k r = m := by
  simp only [Store.hasKey, List.any_eq_false, beq_iff_eq] at h
  exact (List.map_congr_left fun e he => by simp [h e he]).trans (List.map_id m)

theorem hasSec_of_hasKey (m : Store) (k : Str) (c : Char) (hc : k.head? = some c) (h : m.hasKey k = true) :
    m.hasSec c = true := by
  simp only [Store.hasKey, Store.hasSec, List.any_eq_true, Entry.sec, beq_iff_eq] at h ⊢
  obtain ⟨e, he, rfl⟩ := h
  exact ⟨e, he, hc⟩

/-- the type dispatch of `load_policy_line` appends to the named type, which changes nothing when the model does not
    define it -/
theorem loadPolicyLine_some (l : Str) (m : Store) (k : Str) (r : Rule) (h : parseLine l = .ok (some (k, r))) :
    loadPolicyLine l m = .ok (m.append k r) := by
  obtain ⟨c, k', rfl⟩ := List.exists_cons_of_ne_nil (splitLine_of_parseLine h).2.2
  simp only [loadPolicyLine, h, List.head?_cons]
  cases hkey : m.hasKey (c :: k') with
  | true => simp [hasSec_of_hasKey m _ c rfl hkey]
  | false => rw [append_unknown m _ r hkey]; split <;> rfl

end Casbin.C10

namespace Casbin.C12
open Casbin.Py Casbin.Persist Casbin.Persist.Spec Casbin.C10

theorem parsedPairs_eq (ls : List Str) : parsedPairs ls = ls.filterMap parsed := rfl

/-- one line under a keep-predicate: the common shape of the full loader (`keep = true`) and the filtered loader -/
def lineStep (keep : Str → Rule → Bool) (l : Str) (m : Store) : Except Err Store :=
  match parseLine l with
  | .error e => .error e
  | .ok none => .ok m
  | .ok (some (k, r)) => if keep k r then .ok (m.append k r) else .ok m

/-- the lines before the first one on which `load_policy_line` raises -/
def goodPrefix : List Str → List Str
  | [] => []
  | l :: ls => match parseLine l with
    | .error _ => []
    | .ok _ => l :: goodPrefix ls

def firstError : List Str → Option Err
  | [] => none
  | l :: ls => match parseLine l with
    | .error e => some e
    | .ok _ => firstError ls

theorem loadPolicyLine_eq_lineStep (l : Str) (m : Store) : loadPolicyLine l m = lineStep (fun _ _ => true) l m := by
  rcases hp : parseLine l with e | _ | ⟨k, r⟩
  · simp [loadPolicyLine, lineStep, hp]
  · simp [loadPolicyLine, lineStep, hp]
  · simp [loadPolicyLine_some l m k r hp, lineStep, hp]

theorem extend_nil (m : Store) : extend m [] = m :=
  (List.map_congr_left fun e _ => by rw [rulesOf_nil, List.append_nil]; rfl).trans (List.map_id m)

theorem extend_cons (m : Store) (k : Str) (r : Rule) (kr : List (Str × Rule)) :
    extend m ((k, r) :: kr) = extend (m.append k r) kr := by
  simp only [extend, Store.append, List.map_map]
  refine List.map_congr_left fun e _ => ?_
  by_cases hk : k = e.key <;> simp [rulesOf_cons, hk, Ne.symm]

/-- loading lines under a keep-predicate, for every list of lines: every policy type is extended by the kept rules of
    the lines before the first raising one, in order; the exception is that line's -/
theorem loadLines_lineStep (keep : Str → Rule → Bool) (ls : List Str) (m : Store) :
    loadLines (lineStep keep) ls m =
      (extend m ((parsedPairs (goodPrefix ls)).filter fun p => keep p.1 p.2), firstError ls) := by
  induction ls generalizing m with
  | nil => simp [loadLines, goodPrefix, firstError, parsedPairs, extend_nil]
  | cons l ls ih =>
    simp only [loadLines, lineStep, goodPrefix, firstError]
    rcases hp : parseLine l with e | _ | ⟨k, r⟩
    · simp [parsedPairs, extend_nil]
    · simp [ih, parsedPairs, parsed, hp]
    · by_cases hk : keep k r = true <;> simp [ih, parsedPairs, parsed, hp, hk, extend_cons]

theorem firstError_none_iff (ls : List Str) : firstError ls = none ↔ ∀ l ∈ ls, ∀ e, parseLine l ≠ .error e := by
  induction ls with
  | nil => simp [firstError]
  | cons l ls ih => cases hp : parseLine l <;> simp [firstError, hp, ih]

theorem goodPrefix_of_no_error (ls : List Str) (h : firstError ls = none) : goodPrefix ls = ls := by
  induction ls with
  | nil => rfl
  | cons l ls ih => cases hp : parseLine l <;> simp_all [firstError, goodPrefix]

theorem loadLines_map (f : Str → Store → Except Err Store) (pre : Str → Str) (ls : List Str) (m : Store) :
    loadLines (fun l st => f (pre l) st) ls m = loadLines f (ls.map pre) m := by
  induction ls generalizing m with
  | nil => rfl
  | cons l ls ih => simp only [List.map_cons, loadLines, ih]

end Casbin.C12

namespace Casbin.C10
open Casbin.Py Casbin.Persist Casbin.Persist.Spec Casbin.C12

/-- the case "keep everything": `load_policy_line` after `pre`, the adapter's treatment of a line -/
theorem loadLines_full (pre : Str → Str) (ls : List Str) (m : Store) :
    loadLines (fun l m => loadPolicyLine (pre l) m) ls m =
      (extend m (parsedPairs (goodPrefix (ls.map pre))), firstError (ls.map pre)) := by
  simp only [loadPolicyLine_eq_lineStep]
  rw [loadLines_map (lineStep fun _ _ => true), loadLines_lineStep, List.filter_eq_self.mpr fun _ _ => rfl]

end Casbin.C10

namespace Casbin.C12
open Casbin.Py Casbin.Persist Casbin.Persist.Spec Casbin.C10

/-- C12, the full load (`_load_policy_file`) for every file, raising lines included -/
theorem load_full_general (text : Str) (m : Store) :
    loadFile text m =
      (extend m (parsedPairs (goodPrefix (textLines true text))), firstError (textLines true text)) :=
  loadLines_full strip _ m

theorem load_full (text : Str) (m : Store)
    (hok : ∀ l ∈ textLines true text, ∀ e, parseLine l ≠ .error e) :
    loadFile text m = (extend m (parsedPairs (textLines true text)), none) := by
  have h := (firstError_none_iff _).mpr hok
  rw [load_full_general, goodPrefix_of_no_error _ h, h]

end Casbin.C12
