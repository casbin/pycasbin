import CasbinV.Model.Enforcer
import CasbinV.Props.C06
/-!
# The shape of a management call of `Enf.step`

Every policy-changing call either is *quiet* - the state comes back as it was, with a result that does not report
success - or *commits* a `Change`: the rules of one section are replaced, adapter and watcher are told (`persist`), the
links of the section are maintained (`finish`).  `step_cases` says so; `commit` writes out what committing does to every
component of the state, `finish_persist` ties it to the model.  An invariant of the state machine (C04, C05, C09, C20)
is then an argument about one component plus, where it depends on the call, one fact per constructor of `Commits`.  The
filtered update, which asks the adapter first, has a normal form of its own (`updateFilteredStep_eq`).
-/

namespace Casbin.Enf
open Casbin.Policy Casbin.Policy.C06

@[simp] theorem Pol.get_set_same (m : Pol) (sec : Sec) (l : List Rule) : (m.set sec l).get sec = l := by
  cases sec <;> rfl

@[simp] theorem Pol.set_get_self (m : Pol) (sec : Sec) : m.set sec (m.get sec) = m := by
  cases sec <;> rfl

/-- the notification `persist` sends: the call's own callback when the watcher offers it, else the generic one -/
abbrev noteOf (w : Option WCall) : WCall := match w with | some x => x | none => .update

theorem persist_eq (cfg : Cfg) (s : St) (c : ACall) (w : Option WCall) :
    persist cfg s c w =
      { s with
        alog := if cfg.hasAdapter && s.autoSave then s.alog ++ [c] else s.alog
        store := if cfg.hasAdapter && s.autoSave then applyACall s.store s.pol c else s.store
        wlog := if cfg.hasAdapter && s.autoSave && cfg.hasWatcher && s.autoNotify then s.wlog ++ [noteOf w] else s.wlog
        ev := if cfg.hasAdapter && s.autoSave then
                if cfg.hasWatcher && s.autoNotify then s.ev ++ [Ev.adapter c] ++ [Ev.watcher (noteOf w)]
                else s.ev ++ [Ev.adapter c]
              else s.ev } := by
  unfold persist
  cases cfg.hasAdapter && s.autoSave
  · rfl
  · rw [Bool.true_and]; cases cfg.hasWatcher && s.autoNotify <;> rfl

theorem finish_eq (cfg : Cfg) (s1 : St) (sec : Sec) (add : Bool) (rules : List Rule) (ret : Ret) :
    finish cfg s1 sec add rules ret =
      match (if sec = .p || !s1.autoBuild then .ok (s1.links.get sec)
             else incLinks (cfg.count sec) add (s1.pol.get sec) (s1.links.get sec) rules) with
      | .ok l => ({ s1 with links := s1.links.set sec l }, .ok ret)
      | .error e => (s1, .error e) := by
  unfold finish relink
  by_cases h : (sec = .p || !s1.autoBuild) = true
  · simp only [h, ↓reduceIte, Pol.set_get_self]
  · simp only [h]
    cases incLinks (cfg.count sec) add (s1.pol.get sec) (s1.links.get sec) rules <;> rfl

theorem loadCore_fst (cfg : Cfg) (s0 : St) :
    (loadCore cfg s0).1 = { s0 with pol := (loadCore cfg s0).1.pol, links := (loadCore cfg s0).1.links } := by
  unfold loadCore
  simp only
  split
  · split
    · split <;> rfl
    · rfl
  · rfl

/-- what a call that goes through does: the rules of `sec` become `l`, the adapter is told `call`, the watcher `note`,
    the links of `sec` are maintained with `rules` (added or removed), `ret` is answered -/
structure Change where
  sec : Sec
  l : List Rule
  call : ACall
  note : Option WCall
  add : Bool
  rules : List Rule
  ret : Ret

/-- the links of `ch.sec` after the call, or the exception of an ill-sized grouping rule -/
def Change.links (cfg : Cfg) (s : St) (ch : Change) : Except EErr (List Rule) :=
  if ch.sec = .p || !s.autoBuild then .ok (s.links.get ch.sec)
  else incLinks (cfg.count ch.sec) ch.add ch.l (s.links.get ch.sec) ch.rules

/-- state and result of a call that commits `ch`.  When link maintenance raises, the exception is the result and the
    links stay; everything else has been done by then. -/
def commit (cfg : Cfg) (s : St) (ch : Change) : St × Except EErr Ret :=
  ({ s with
     pol := s.pol.set ch.sec ch.l
     links := match ch.links cfg s with | .ok l' => s.links.set ch.sec l' | .error _ => s.links
     alog := if cfg.hasAdapter && s.autoSave then s.alog ++ [ch.call] else s.alog
     store := if cfg.hasAdapter && s.autoSave then applyACall s.store (s.pol.set ch.sec ch.l) ch.call else s.store
     wlog := if cfg.hasAdapter && s.autoSave && cfg.hasWatcher && s.autoNotify then s.wlog ++ [noteOf ch.note]
             else s.wlog
     ev := if cfg.hasAdapter && s.autoSave then
             if cfg.hasWatcher && s.autoNotify then s.ev ++ [Ev.adapter ch.call] ++ [Ev.watcher (noteOf ch.note)]
             else s.ev ++ [Ev.adapter ch.call]
           else s.ev },
   match ch.links cfg s with | .ok _ => .ok ch.ret | .error e => .error e)

/-- no link maintenance on `p`, nor while `auto_build_role_links` is off -/
theorem Change.links_quiet {cfg : Cfg} {s : St} {ch : Change} (h : ch.sec = .p ∨ s.autoBuild = false) :
    ch.links cfg s = .ok (s.links.get ch.sec) := by
  rcases h with h | h <;> simp [Change.links, h]

theorem Change.links_grouping {cfg : Cfg} {s : St} {ch : Change} (hsec : ch.sec ≠ .p) (ha : s.autoBuild = true) :
    ch.links cfg s = incLinks (cfg.count ch.sec) ch.add ch.l (s.links.get ch.sec) ch.rules := by
  simp [Change.links, hsec, ha]

/-! Components of `(commit cfg s ch).1`; the three flags are those of `s` by `rfl`. -/

theorem commit_pol (cfg : Cfg) (s : St) (ch : Change) : (commit cfg s ch).1.pol = s.pol.set ch.sec ch.l := rfl

theorem commit_links_ok {cfg : Cfg} {s : St} {ch : Change} {l' : List Rule} (h : ch.links cfg s = .ok l') :
    (commit cfg s ch).1.links = s.links.set ch.sec l' := by
  rw [commit, h]

theorem commit_links_error {cfg : Cfg} {s : St} {ch : Change} {e : EErr} (h : ch.links cfg s = .error e) :
    (commit cfg s ch).1.links = s.links := by
  rw [commit, h]

theorem commit_alog (cfg : Cfg) (s : St) (ch : Change) :
    (commit cfg s ch).1.alog = if cfg.hasAdapter && s.autoSave then s.alog ++ [ch.call] else s.alog := rfl

theorem commit_store (cfg : Cfg) (s : St) (ch : Change) :
    (commit cfg s ch).1.store =
      if cfg.hasAdapter && s.autoSave then applyACall s.store (s.pol.set ch.sec ch.l) ch.call else s.store := rfl

theorem commit_wlog (cfg : Cfg) (s : St) (ch : Change) :
    (commit cfg s ch).1.wlog =
      if cfg.hasAdapter && s.autoSave && cfg.hasWatcher && s.autoNotify then s.wlog ++ [noteOf ch.note] else s.wlog := rfl

theorem finish_persist (cfg : Cfg) (s : St) (sec : Sec) (l : List Rule) (call : ACall) (note : Option WCall) (add : Bool)
    (rules : List Rule) (ret : Ret) :
    finish cfg (persist cfg { s with pol := s.pol.set sec l } call note) sec add rules ret =
      commit cfg s ⟨sec, l, call, note, add, rules, ret⟩ := by
  unfold commit Change.links
  rw [finish_eq, persist_eq]
  simp only [Pol.get_set_same]
  split <;> simp only [*]

theorem commit_ok {cfg : Cfg} {s : St} {ch : Change} {r : Ret} (h : (commit cfg s ch).2 = .ok r) : r = ch.ret := by
  unfold commit at h
  split at h <;> cases h
  rfl

/- `isChange` and `success` are C20's notions (what counts as a policy change, what as a reported success); C04, C05
   and C09 state their step theorems with them too. -/
namespace C20
/-- the policy-changing management calls: those that go through `persist` -/
def isChange : Op → Bool
  | .add .. | .addMany .. | .remove .. | .removeMany .. | .removeFiltered .. | .update .. | .updateMany .. => true
  | _ => false

/-- a call reports success: `True`, or a non-empty list of removed rules -/
def success : Except EErr Ret → Bool
  | .ok (.bool true) => true
  | .ok (.rules (_ :: _)) => true
  | _ => false
end C20
open C20

/-- the call `op`, issued in state `s`, goes through and commits `ch` (`Policy` says what the new rules are) -/
inductive Commits (cfg : Cfg) (s : St) : Op → Change → Prop
  | add {sec r l} : Policy.add none (s.pol.get sec) r = (l, true) → shortFor cfg sec [r] = false →
      Commits cfg s (.add sec r)
        ⟨sec, l, .addPolicy sec r, exOnly cfg (.forAddPolicy sec r), true, [r], .bool true⟩
  | addMany {sec rs l} : Policy.addMany none (s.pol.get sec) rs = (l, true) → shortFor cfg sec rs = false →
      Commits cfg s (.addMany sec rs)
        ⟨sec, l, .addPolicies sec rs, exOnly cfg (.forAddPolicies sec rs), true, rs, .bool true⟩
  | remove {sec r l} : Policy.remove (s.pol.get sec) r = (l, true) →
      Commits cfg s (.remove sec r)
        ⟨sec, l, .removePolicy sec r, exOnly cfg (.forRemovePolicy sec r), false, [r], .bool true⟩
  | removeMany {sec rs l} : Policy.removeMany (s.pol.get sec) rs = (l, true) →
      Commits cfg s (.removeMany sec rs)
        ⟨sec, l, .removePolicies sec rs, exOnly cfg (.forRemovePolicies sec rs), false, rs, .bool true⟩
  | removeFiltered {sec idx vals y ys no} : partitionFiltered idx vals (s.pol.get sec) = .ok (y :: ys, no) →
      Commits cfg s (.removeFiltered sec idx vals)
        ⟨sec, no, .removeFiltered sec idx vals, exOnly cfg (.forRemoveFiltered sec idx vals), false, y :: ys,
          if sec = .p then .bool true else .rules (y :: ys)⟩
  | update {old new l} : Policy.update none (s.pol.get .p) old new = .ok (l, true) →
      Commits cfg s (.update old new)
        ⟨.p, l, .updatePolicy .p old new, updOnly cfg (.forUpdatePolicy old new), false, [], .bool true⟩
  | updateMany {olds news l} : Policy.updateMany none (s.pol.get .p) olds news = .ok (l, true) →
      Commits cfg s (.updateMany olds news)
        ⟨.p, l, .updatePolicies .p olds news, updOnly cfg (.forUpdatePolicies olds news), false, [], .bool true⟩

theorem Commits.success {cfg : Cfg} {s : St} {op : Op} {ch : Change} (hc : Commits cfg s op ch) :
    success (.ok ch.ret) = true := by
  cases hc <;> first | rfl | (simp only []; split <;> rfl)

theorem step_cases (cfg : Cfg) (s : St) (op : Op) (hop : isChange op = true) :
    (∃ r, step cfg s op = (s, r) ∧ success r = false) ∨ ∃ ch, Commits cfg s op ch ∧ step cfg s op = commit cfg s ch := by
  cases op with
  | add sec r =>
    rw [step]
    cases h : Policy.add none (s.pol.get sec) r with
    | mk l ok =>
      cases ok with
      | false => exact .inl ⟨_, rfl, rfl⟩
      | true =>
        cases hs : shortFor cfg sec [r] with
        | true => exact .inl ⟨_, rfl, rfl⟩
        | false => exact .inr ⟨_, .add h hs, finish_persist ..⟩
  | addMany sec rs =>
    rw [step]
    cases h : Policy.addMany none (s.pol.get sec) rs with
    | mk l ok =>
      cases ok with
      | false => exact .inl ⟨_, rfl, rfl⟩
      | true =>
        cases hs : shortFor cfg sec rs with
        | true => exact .inl ⟨_, rfl, rfl⟩
        | false => exact .inr ⟨_, .addMany h hs, finish_persist ..⟩
  | remove sec r =>
    rw [step]
    cases h : Policy.remove (s.pol.get sec) r with
    | mk l ok =>
      cases ok with
      | false => exact .inl ⟨_, rfl, rfl⟩
      | true => exact .inr ⟨_, .remove h, finish_persist ..⟩
  | removeMany sec rs =>
    rw [step]
    cases h : Policy.removeMany (s.pol.get sec) rs with
    | mk l ok =>
      cases ok with
      | false => exact .inl ⟨_, rfl, rfl⟩
      | true => exact .inr ⟨_, .removeMany h, finish_persist ..⟩
  | removeFiltered sec idx vals =>
    cases hp : partitionFiltered idx vals (s.pol.get sec) with
    | error e =>
      refine .inl ⟨.error (ofPErr e), ?_, rfl⟩
      cases sec <;> simp only [step, Policy.removeFiltered, Policy.removeFilteredReturnsEffects, Except.map, hp]
    | ok res =>
      obtain ⟨yes, no⟩ := res
      cases yes with
      | nil =>
        -- nothing matched: `step` still writes the rules back, but they are the old ones (`no = s.pol.get sec`)
        cases partitionFiltered_nil _ _ _ _ hp
        refine .inl ⟨if sec = .p then .ok (.bool false) else .ok (.rules []), ?_, by split <;> rfl⟩
        cases sec <;>
          simp [step, Policy.removeFiltered, Policy.removeFilteredReturnsEffects, Except.map, hp]
      | cons y ys =>
        refine .inr ⟨_, .removeFiltered hp, ?_⟩
        cases sec
        · -- `p` is persisted without `finish`, which does nothing on `p`
          simp only [step, Policy.removeFiltered, Except.map, hp]
          exact finish_persist cfg s .p no _ _ false (y :: ys) _
        all_goals
          simp only [step, Policy.removeFilteredReturnsEffects, Except.map, hp, finish_persist]
          rfl
  | update old new =>
    rw [step]
    cases h : Policy.update none s.pol.p old new with
    | error e => exact .inl ⟨_, rfl, rfl⟩
    | ok res =>
      obtain ⟨l, ok⟩ := res
      cases ok with
      | false => exact .inl ⟨_, rfl, rfl⟩
      | true => exact .inr ⟨_, .update h, finish_persist cfg s .p l _ _ false [] _⟩
  | updateMany olds news =>
    rw [step]
    cases h : Policy.updateMany none s.pol.p olds news with
    | error e => exact .inl ⟨_, rfl, rfl⟩
    | ok res =>
      obtain ⟨l, ok⟩ := res
      cases ok with
      | false => exact .inl ⟨_, rfl, rfl⟩
      | true => exact .inr ⟨_, .updateMany h, finish_persist cfg s .p l _ _ false [] _⟩
  | _ => cases hop

/-- `step_cases` as an induction principle for predicates on the state -/
theorem step_of_commits {P : St → Prop} (cfg : Cfg) (s : St) (op : Op) (hop : isChange op = true) (h0 : P s)
    (hc : ∀ ch, Commits cfg s op ch → P (commit cfg s ch).1) : P (step cfg s op).1 := by
  rcases step_cases cfg s op hop with ⟨_, h, _⟩ | ⟨ch, hcm, h⟩ <;> rw [h]
  · exact h0
  · exact hc ch hcm

theorem unchanged_of_unsuccessful (cfg : Cfg) (s : St) (op : Op) (hop : isChange op = true) (r : Ret)
    (hr : (step cfg s op).2 = .ok r) (hf : success (.ok r) = false) : (step cfg s op).1 = s := by
  rcases step_cases cfg s op hop with ⟨r', h, _⟩ | ⟨ch, hc, h⟩
  · rw [h]
  · rw [h] at hr
    rw [commit_ok hr, hc.success] at hf
    cases hf

/-- the filtered update, once it is past its guards: `old` is what the adapter reports when it is asked and answers,
    else the in-memory selection -/
theorem updateFilteredStep_eq {cfg : Cfg} {s : St} {news : List Rule} {idx : Nat} {vals : List String}
    {oldMem : List Rule} (hg : Policy.getFiltered s.pol.p idx vals = .ok oldMem)
    (hr : Policy.updateFilteredRefused s.pol.p oldMem news = false) :
    updateFilteredStep cfg s news idx vals =
      let c := ACall.updateFiltered news idx vals
      let told := cfg.hasAdapter && s.autoSave
      let fromStore := if told then (Policy.getFiltered s.store.p idx vals).toOption else none
      let res := Policy.updateFilteredWith s.pol.p (fromStore.getD oldMem) news
      let notified := res.2 && cfg.hasWatcher && s.autoNotify
      ({ s with
         pol := s.pol.set .p res.1
         store := if fromStore.isSome then applyACall s.store s.pol c else s.store
         alog := if told then s.alog ++ [c] else s.alog
         wlog := if notified then s.wlog ++ [.update] else s.wlog
         ev := s.ev ++ (if told then [c] else []).map .adapter ++ (if notified then [.update] else []).map .watcher },
       .ok (.bool res.2)) := by
  unfold updateFilteredStep
  simp only [hg, hr, Bool.false_eq_true, ↓reduceIte]
  cases cfg.hasAdapter && s.autoSave
  · cases h2 : (Policy.updateFilteredWith s.pol.p oldMem news).2 <;> cases h3 : (cfg.hasWatcher && s.autoNotify) <;>
      simp [h2, h3]
  · cases Policy.getFiltered s.store.p idx vals with
    | error e =>
      cases h2 : (Policy.updateFilteredWith s.pol.p oldMem news).2 <;> cases h3 : (cfg.hasWatcher && s.autoNotify) <;>
        simp [h2, h3, Except.toOption]
    | ok oldSt =>
      cases h2 : (Policy.updateFilteredWith s.pol.p oldSt news).2 <;> cases h3 : (cfg.hasWatcher && s.autoNotify) <;>
        simp [h2, h3, Except.toOption]

/-- a call stopped by a guard returns the state as it was; otherwise `updateFilteredStep_eq` applies -/
theorem updateFilteredStep_guards (cfg : Cfg) (s : St) (news : List Rule) (idx : Nat) (vals : List String) :
    (∃ r, updateFilteredStep cfg s news idx vals = (s, r) ∧ r ≠ .ok (.bool true)) ∨
    ∃ oldMem, Policy.getFiltered s.pol.p idx vals = .ok oldMem ∧
      Policy.updateFilteredRefused s.pol.p oldMem news = false := by
  cases hg : Policy.getFiltered s.pol.p idx vals with
  | error e => exact .inl ⟨.error (ofPErr e), by simp only [updateFilteredStep, hg], nofun⟩
  | ok oldMem =>
    cases hr : Policy.updateFilteredRefused s.pol.p oldMem news with
    | true => exact .inl ⟨.ok (.bool false), by simp only [updateFilteredStep, hg, hr, ↓reduceIte], by simp⟩
    | false => exact .inr ⟨_, rfl, hr⟩

end Casbin.Enf
