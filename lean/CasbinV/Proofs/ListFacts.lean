/-!
# List facts that several property files use and core `List` does not have

Python's `l.remove(x)`, `l[l.index(a)] = b`, `s.add(a)` and duplicate checks by counting, on duplicate-free lists;
the text before the first occurrence of a character; `d.get(k)` on a dict kept as an association list.
Core Lean only.
-/
namespace Casbin

section
variable {α : Type}

theorem isEmpty_filter (l : List α) (p : α → Bool) : (l.filter p).isEmpty = !l.any p := by
  rw [Bool.eq_iff_iff]; simp

theorem nodup_snoc {l : List α} {a : α} (h : l.Nodup) (ha : a ∉ l) : (l ++ [a]).Nodup :=
  List.nodup_append.mpr ⟨h, by simp, fun x hx b hb e => ha (by simp at hb; rwa [← hb, ← e])⟩

theorem not_mem_of_all {p : α → Bool} {l : List α} {a : α} (h : l.all p = true) (ha : p a = false) : a ∉ l :=
  fun hm => Bool.false_ne_true (ha ▸ List.all_eq_true.mp h a hm)

theorem exists_snoc (l : List α) (h : l ≠ []) : ∃ m q, l = m ++ [q] :=
  ⟨l.dropLast, l.getLast h, (List.dropLast_concat_getLast h).symm⟩

theorem dropWhile_all (p : α → Bool) (x : List α) (c : α) (z : List α) (hx : x.all p = true) (hc : p c = false) :
    (x ++ c :: z).dropWhile p = c :: z ∧ (x ++ c :: z).takeWhile p = x := by
  have hx := List.all_eq_true.mp hx
  simp [List.dropWhile_append_of_pos hx, List.takeWhile_append_of_pos hx, hc]

theorem findSome?_map_ite {γ δ : Type} (l : List α) (f : α → γ) (φ : γ → Option δ) (p : α → Bool) (v : δ)
    (h : ∀ x ∈ l, φ (f x) = if p x = true then some v else none) :
    (l.map f).findSome? φ = if l.any p = true then some v else none := by
  induction l with
  | nil => rfl
  | cons x r ih =>
    rw [List.map_cons, List.findSome?_cons, h x List.mem_cons_self, List.any_cons,
      ih fun y hy => h y (List.mem_cons_of_mem _ hy)]
    cases p x <;> rfl

theorem foldl_erase_sublist [BEq α] (rs l : List α) :
    (rs.foldl (fun acc r => if acc.contains r then acc.erase r else acc) l).Sublist l :=
  List.foldlRecOn (motive := fun acc => List.Sublist acc l) rs _ (List.Sublist.refl l) fun acc h r _ => by
    split
    · exact List.erase_sublist.trans h
    · exact h

end

section
variable {α β : Type} [BEq α] [LawfulBEq α]

/-- `for r in rs: if r in l: l.remove(r)` -/
theorem foldl_erase_eq_filter (rs l : List α) (hd : l.Nodup) :
    rs.foldl (fun acc r => if acc.contains r then acc.erase r else acc) l = l.filter (fun x => !rs.contains x) := by
  induction rs generalizing l with
  | nil => simp [List.filter_eq_self.mpr]
  | cons r rs ih =>
    have he : (if l.contains r then l.erase r else l) = l.filter (· != r) := by
      rw [← hd.erase_eq_filter]; split
      · rfl
      · rw [List.erase_of_not_mem (by simp_all)]
    rw [List.foldl_cons, he, ih _ (hd.filter _), List.filter_filter]
    simp [Bool.and_comm, bne]

theorem filter_not_contains_filter (l : List α) (p : α → Bool) :
    l.filter (fun x => !(l.filter p).contains x) = l.filter (fun x => !p x) :=
  List.filter_congr fun x hx => by simp [hx]

/-- `l[l.index(a)] = b` on a duplicate-free list rewrites the one element equal to `a`; over `l.map g` with the index
    taken in `l`, so that a fold of such assignments is an induction on `g` (C06u `foldl_set_map`) -/
theorem set_idxOf_map [DecidableEq α] (l : List α) (g : α → α) (a b : α) (hd : l.Nodup) :
    (l.map g).set (l.idxOf a) b = l.map (fun x => if x = a then b else g x) := by
  apply List.ext_getElem (by simp)
  intro i h1 _
  have hi : i < l.length := by simpa using h1
  rw [List.getElem_set, List.getElem_map, List.getElem_map]
  by_cases ha : l[i] = a
  · simp [← ha, hd.idxOf_getElem i hi]
  · have : l.idxOf a ≠ i := fun h => ha (by simp [← h])
    simp [ha, this]

/-- duplicates can only be found among `S` when everything outside `S` occurs at most once -/
theorem any_count_eq_false_iff (S l : List α) (h : ∀ v, v ∉ S → l.count v ≤ 1) :
    (S.any fun n => l.count n > 1) = false ↔ l.Nodup := by
  rw [List.nodup_iff_count]
  simp only [List.any_eq_false, decide_eq_true_eq, Nat.not_lt]
  exact ⟨fun h1 a => if ha : a ∈ S then h1 a ha else h a ha, fun h1 a _ => h1 a⟩

/-! Python's `s.add(a)` on a set kept as a duplicate-free list. -/

theorem mem_setInsert {l : List α} {a x : α} : x ∈ (if l.contains a then l else l ++ [a]) ↔ x = a ∨ x ∈ l := by
  split <;> simp_all [or_comm]

theorem nodup_setInsert {l : List α} {a : α} (h : l.Nodup) : (if l.contains a then l else l ++ [a]).Nodup := by
  split
  · exact h
  · exact nodup_snoc h (by simp_all)

/-! The text before the first `a` is `takeWhile (· != a)`. -/

theorem bne_of_not_mem {a : α} {l : List α} (h : a ∉ l) : ∀ x ∈ l, (x != a) = true :=
  fun _ hx => bne_iff_ne.2 fun e => h (e ▸ hx)

theorem takeWhile_ne_append {a : α} {l : List α} (r : List α) (h : a ∉ l) :
    (l ++ a :: r).takeWhile (· != a) = l := by
  simp [List.takeWhile_append_of_pos (bne_of_not_mem h)]

theorem takeWhile_ne_self {a : α} {l : List α} (h : a ∉ l) : l.takeWhile (· != a) = l := by
  simpa using List.takeWhile_append_of_pos (l₂ := []) (bne_of_not_mem h)

theorem not_mem_takeWhile_ne (a : α) (l : List α) : a ∉ l.takeWhile (· != a) := fun h => by
  simpa using List.all_eq_true.1 (List.all_takeWhile (p := (· != a)) (l := l)) a h

theorem eq_takeWhile_ne_append {a : α} {l : List α} (h : a ∈ l) :
    ∃ r, l = l.takeWhile (· != a) ++ a :: r := by
  induction l with
  | nil => simp at h
  | cons x l ih =>
    by_cases hx : x = a
    · exact ⟨l, by simp [hx]⟩
    · obtain ⟨r, hr⟩ := ih (by simpa [Ne.symm hx] using h)
      exact ⟨r, by simp [hx, ← hr]⟩

/-! Python's `dict` as an association list. -/

theorem mem_of_lookup_eq_some {m : List (α × β)} {x : α} {b : β} (h : m.lookup x = some b) : (x, b) ∈ m := by
  obtain ⟨l₁, l₂, rfl, -⟩ := List.lookup_eq_some_iff.mp h
  simp

theorem lookup_of_unique {m : List (α × β)} {x : α} {b : β} (hx : (x, b) ∈ m) (hu : ∀ b', (x, b') ∈ m → b' = b) :
    m.lookup x = some b := by
  cases h : m.lookup x with
  | none => simpa using List.lookup_eq_none_iff.mp h _ hx
  | some b' => rw [hu b' (mem_of_lookup_eq_some h)]

theorem lookup_eq_none_iff_keys {m : List (α × β)} {x : α} : m.lookup x = none ↔ x ∉ m.map (·.1) := by
  simp only [List.lookup_eq_none_iff, bne_iff_ne, ne_eq, List.mem_map, not_exists, not_and]
  exact ⟨fun h e he hk => h e he hk.symm, fun h e he hk => h e he hk.symm⟩

theorem lookup_eq_some_iff_mem {m : List (α × β)} (hn : (m.map (·.1)).Nodup) {x : α} {b : β} :
    m.lookup x = some b ↔ (x, b) ∈ m := by
  refine ⟨mem_of_lookup_eq_some, fun h => ?_⟩
  obtain ⟨s, t, rfl⟩ := List.append_of_mem h
  rw [List.map_append, List.nodup_append] at hn
  have : s.lookup x = none := lookup_eq_none_iff_keys.mpr fun hx => hn.2.2 x hx x (by simp) rfl
  simp [List.lookup_append, this]

end

end Casbin
