import CasbinV.Proofs.RWLockAbs
/-!
# Counter abstraction of the readers-writer lock: the inductive invariant (helper of C16)

`Inv` is the inductive invariant of `CStep` (`Proofs/RWLockAbs.lean`); all cases are linear arithmetic (`omega`).
-/
namespace Casbin.C16
open Casbin.RW

structure Inv (s : CS) : Prop where
  mutex : s.holders ≤ 1
  readers : s.ar = (s.rH2 + s.rIn + s.rrW + s.rrH0 : Nat)
  writers : s.wa = s.wH4 + s.wIn + s.wrW + s.wrH0
  flag01 : s.wa ≤ 1
  waiting : s.ww = (s.wH1 + s.wS + s.wN + s.wH2 : Nat)
  excl : 0 < s.wa → s.ar = 0
  /-- a reader that has passed its `while` test: nothing changed since (it holds the mutex) -/
  rpass : 0 < s.rH1 + s.rH2 → s.ww = 0 ∧ s.wa = 0
  wpass : 0 < s.wH2 + s.wH3 → s.ar = 0 ∧ s.wa = 0
  /-- no lost wake-up: a sleeper's blocking condition holds, or the mutex is held by the thread that has just ended it
      and has not yet called `notify_all` (`wrH1`; in `ws` also `rrH1`, `rrH1n`: before the `== 0` test, before the
      call), or — `wH3` in `rs` — by a writer between `_waiting_writers -= 1` and `_writer_active = True`: a sleeping
      reader's condition is false for that one instruction and nobody will notify, but the flag restores it -/
  rs : 0 < s.rS → (0 < s.ww ∨ 0 < s.wa ∨ 0 < s.wH3 ∨ 0 < s.wrH1)
  ws : 0 < s.wS → (0 < s.ar ∨ 0 < s.wa ∨ 0 < s.rrH1 ∨ 0 < s.rrH1n ∨ 0 < s.wrH1)

theorem inv_init (n : Nat) : Inv (cinit n) := by
  constructor <;> simp [cinit, CS.holders]

/-! ## Each conjunct is preserved, given only the conjuncts it leans on

Every lemma names the transitions that touch the counters its conjunct mentions; for all others the conjunct is
literally unchanged (`exact h`). -/

section
variable {l : Lbl} {s t : CS}

theorem holders_step (st : CStep l s t) : t.holders ≤ s.holders ∨ (s.holders = 0 ∧ t.holders = 1) := by
  cases st <;> dsimp only [CS.holders] at * <;> omega

theorem mutex_step (st : CStep l s t) (h : s.holders ≤ 1) : t.holders ≤ 1 := by
  have := holders_step st
  omega

theorem readers_step (st : CStep l s t) (h : s.ar = (s.rH2 + s.rIn + s.rrW + s.rrH0 : Nat)) :
    t.ar = (t.rH2 + t.rIn + t.rrW + t.rrH0 : Nat) := by
  cases st with
  | rInc | rUnlock | rrStart | rrLock | rrDec => dsimp only; omega
  | _ => exact h

theorem waiting_step (st : CStep l s t) (h : s.ww = (s.wH1 + s.wS + s.wN + s.wH2 : Nat)) :
    t.ww = (t.wH1 + t.wS + t.wN + t.wH2 : Nat) := by
  cases st with
  | wReg | wWait | wPass | wRelock | wSpur | wDec | rrNotify | wrNotify => dsimp only; omega
  | _ => exact h

theorem flag01_step (st : CStep l s t) (h : s.wa ≤ 1) : t.wa ≤ 1 := by
  cases st with
  | wSet | wrClear => dsimp only; omega
  | _ => exact h

/-- `wSet` raises the flag from 0 (`wpass`), `wrClear` lowers it from 1 with one owner (`flag01`) -/
theorem writers_step (st : CStep l s t) (h : s.wa = s.wH4 + s.wIn + s.wrW + s.wrH0) (h01 : s.wa ≤ 1)
    (hwp : 0 < s.wH2 + s.wH3 → s.ar = 0 ∧ s.wa = 0) : t.wa = t.wH4 + t.wIn + t.wrW + t.wrH0 := by
  cases st with
  | wSet | wUnlock | wrStart | wrLock | wrClear => dsimp only; omega
  | _ => exact h

/-- whoever raises a count has passed its test and still holds the mutex: `rInc` sees no writer (`rpass`), `wSet` no
    reader (`wpass`); `rrDec` lowers a positive count (`readers`) -/
theorem excl_step (st : CStep l s t) (h : 0 < s.wa → s.ar = 0) (hr : s.ar = (s.rH2 + s.rIn + s.rrW + s.rrH0 : Nat))
    (hrp : 0 < s.rH1 + s.rH2 → s.ww = 0 ∧ s.wa = 0) (hwp : 0 < s.wH2 + s.wH3 → s.ar = 0 ∧ s.wa = 0) :
    0 < t.wa → t.ar = 0 := by
  cases st with
  | rInc | rrDec | wSet | wrClear => dsimp only; omega
  | _ => exact h

theorem rpass_step (st : CStep l s t) (h : 0 < s.rH1 + s.rH2 → s.ww = 0 ∧ s.wa = 0) (hm : s.holders ≤ 1)
    (hw : s.ww = (s.wH1 + s.wS + s.wN + s.wH2 : Nat)) : 0 < t.rH1 + t.rH2 → t.ww = 0 ∧ t.wa = 0 := by
  -- a writer that changes `ww` or the flag (`wReg`, `wDec`, `wSet`) would be a second holder of the mutex
  have : s.rH1 + s.rH2 + (s.wH0 + s.wH2 + s.wH3) ≤ s.holders := by dsimp only [CS.holders]; omega
  cases st with
  | wReg | wDec | wSet | rPass | rInc | rUnlock | wrClear => dsimp only; omega
  | _ => exact h

theorem wpass_step (st : CStep l s t) (h : 0 < s.wH2 + s.wH3 → s.ar = 0 ∧ s.wa = 0) (hm : s.holders ≤ 1)
    (hr : s.ar = (s.rH2 + s.rIn + s.rrW + s.rrH0 : Nat)) : 0 < t.wH2 + t.wH3 → t.ar = 0 ∧ t.wa = 0 := by
  -- a reader that changes `ar` (`rInc`, `rrDec`) would be a second holder of the mutex; so would a second writer past
  -- its test when `wSet` raises the flag
  have : s.wH2 + s.wH3 + (s.rH1 + s.rrH0) ≤ s.holders := by dsimp only [CS.holders]; omega
  cases st with
  | rInc | rrDec | wSet | wPass | wDec | wrClear => dsimp only; omega
  | _ => exact h

/-- whoever ends a sleeper's blocking condition goes on to a `notify_all` before it gives up the mutex -/
theorem rs_step (st : CStep l s t) (h : 0 < s.rS → (0 < s.ww ∨ 0 < s.wa ∨ 0 < s.wH3 ∨ 0 < s.wrH1)) :
    0 < t.rS → (0 < t.ww ∨ 0 < t.wa ∨ 0 < t.wH3 ∨ 0 < t.wrH1) := by
  cases st with
  | rWait | rSpur | rrNotify | wrNotify | wReg | wDec | wSet | wrClear => dsimp only; omega
  | _ => exact h

theorem ws_step (st : CStep l s t) (h : 0 < s.wS → (0 < s.ar ∨ 0 < s.wa ∨ 0 < s.rrH1 ∨ 0 < s.rrH1n ∨ 0 < s.wrH1))
    (hr : s.ar = (s.rH2 + s.rIn + s.rrW + s.rrH0 : Nat)) :
    0 < t.wS → (0 < t.ar ∨ 0 < t.wa ∨ 0 < t.rrH1 ∨ 0 < t.rrH1n ∨ 0 < t.wrH1) := by
  cases st with
  | wWait | wSpur | rrNotify | wrNotify | rInc | rrDec | rrIfT | rrIfF | wSet | wrClear => dsimp only; omega
  | _ => exact h

end

theorem inv_step {l : Lbl} {s t : CS} (h : Inv s) (st : CStep l s t) : Inv t :=
  ⟨mutex_step st h.mutex, readers_step st h.readers, writers_step st h.writers h.flag01 h.wpass, flag01_step st h.flag01,
    waiting_step st h.waiting, excl_step st h.excl h.readers h.rpass h.wpass, rpass_step st h.rpass h.mutex h.waiting,
    wpass_step st h.wpass h.mutex h.readers, rs_step st h.rs, ws_step st h.ws h.readers⟩

theorem inv_reach {n : Nat} {s : CS} (r : Reach n s) : Inv s := by
  induction r with
  | init => exact inv_init n
  | step _ st ih => exact inv_step ih st

end Casbin.C16
