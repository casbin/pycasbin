/-!
# Stable ordered insertion

The model has four insertion loops (`bubbleRev`, `insertSorted`, `insertByKey` of Model/Policy.lean, `insertByLe` of
Model/LoadOrd.lean).  Each walks past the elements that have to stay in front of the new one and puts it there:
`insertAfter stay r`.  What the properties need of them - a permutation, order kept, equal keys in arrival order -
is proved here for `insertAfter` and for the sort that folds it; each loop is then shown to be an `insertAfter`.
Core Lean only.
-/
namespace Casbin
variable {α : Type}

def insertAfter (stay : α → Bool) (r : α) : List α → List α
  | [] => [r]
  | x :: xs => if stay x then x :: insertAfter stay r xs else r :: x :: xs

theorem insertAfter_stay {stay : α → Bool} {x : α} (h : stay x = true) (r : α) (xs : List α) :
    insertAfter stay r (x :: xs) = x :: insertAfter stay r xs := by simp [insertAfter, h]

theorem insertAfter_stop {stay : α → Bool} {x : α} (h : stay x = false) (r : α) (xs : List α) :
    insertAfter stay r (x :: xs) = r :: x :: xs := by simp [insertAfter, h]

theorem insertAfter_perm (stay : α → Bool) (r : α) (l : List α) : (insertAfter stay r l).Perm (r :: l) := by
  induction l with
  | nil => exact .refl _
  | cons x xs ih =>
    cases hs : stay x
    · rw [insertAfter_stop hs]
    · rw [insertAfter_stay hs]; exact (ih.cons x).trans (.swap r x xs)

theorem mem_insertAfter {stay : α → Bool} {r x : α} {l : List α} : x ∈ insertAfter stay r l ↔ x = r ∨ x ∈ l := by
  rw [(insertAfter_perm stay r l).mem_iff, List.mem_cons]

theorem insertAfter_congr {stay stay' : α → Bool} (r : α) {l : List α} (h : ∀ x ∈ l, stay x = stay' x) :
    insertAfter stay r l = insertAfter stay' r l := by
  induction l with
  | nil => rfl
  | cons x xs ih => simp [insertAfter, h x, ih fun y hy => h y (by simp [hy])]

theorem insertAfter_pairwise {R : α → α → Prop} (htr : ∀ {a b c}, R a b → R b c → R a c) {stay : α → Bool} {r : α}
    {l : List α} (hl : l.Pairwise R) (h1 : ∀ x ∈ l, stay x = true → R x r) (h2 : ∀ x ∈ l, stay x = false → R r x) :
    (insertAfter stay r l).Pairwise R := by
  induction l with
  | nil => simp [insertAfter]
  | cons x xs ih =>
    obtain ⟨hx, hxs⟩ := List.pairwise_cons.mp hl
    cases hs : stay x
    · -- `r` stops in front of `x`, hence in front of everything behind `x`
      have hrx := h2 x (by simp) hs
      rw [insertAfter_stop hs]
      refine List.pairwise_cons.mpr ⟨fun y hy => ?_, hl⟩
      rcases List.mem_cons.mp hy with rfl | hy
      · exact hrx
      · exact htr hrx (hx y hy)
    · rw [insertAfter_stay hs]
      have ih' := ih hxs (fun y hy => h1 y (by simp [hy])) fun y hy => h2 y (by simp [hy])
      refine List.pairwise_cons.mpr ⟨fun y hy => ?_, ih'⟩
      rcases mem_insertAfter.mp hy with rfl | hy
      · exact h1 x (by simp) hs
      · exact hx y hy

/-- in a list where nothing that stays stands behind something that does not (a sorted list), nothing stays once the
    head does not -/
theorem stay_false_of_head {stay : α → Bool} {x : α} {xs : List α}
    (hl : (x :: xs).Pairwise fun a b => stay b = true → stay a = true) (hs : stay x = false) :
    ∀ y ∈ x :: xs, stay y = false := fun y hy => by
  rcases List.mem_cons.mp hy with rfl | hy
  · exact hs
  · exact Bool.eq_false_iff.mpr fun h => by rw [(List.pairwise_cons.mp hl).1 y hy h] at hs; cases hs

theorem insertAfter_eq_filter {stay : α → Bool} (r : α) {l : List α} (hl : l.Pairwise fun a b => stay b = true → stay a = true) :
    insertAfter stay r l = l.filter stay ++ r :: l.filter (fun x => !stay x) := by
  induction l with
  | nil => rfl
  | cons x xs ih =>
    cases hs : stay x
    · have hn := stay_false_of_head hl hs
      rw [insertAfter_stop hs, List.filter_eq_nil_iff.mpr (by simpa using hn), List.filter_eq_self.mpr (by simpa using hn)]
      rfl
    · simp [insertAfter_stay hs, ih (List.pairwise_cons.mp hl).2, hs]

/-- stability: a class `f` of elements whose members all stay in front of a new member keeps its order, the new
    member last -/
theorem filter_insertAfter {stay : α → Bool} (f : α → Bool) (r : α) {l : List α}
    (hl : l.Pairwise fun a b => stay b = true → stay a = true) (hf : f r = true → ∀ y ∈ l, f y = true → stay y = true) :
    (insertAfter stay r l).filter f = l.filter f ++ [r].filter f := by
  induction l with
  | nil => rfl
  | cons x xs ih =>
    cases hs : stay x
    · rw [insertAfter_stop hs, List.filter_cons]
      cases hr : f r
      · simp [hr]
      · -- nothing stays, so no element is of the class of `r`
        have hn : (x :: xs).filter f = [] := List.filter_eq_nil_iff.mpr fun y hy hfy => by
          have := stay_false_of_head hl hs y hy
          rw [hf hr y hy hfy] at this; cases this
        simp [hn, hr]
    · rw [insertAfter_stay hs, List.filter_cons, List.filter_cons,
        ih (List.pairwise_cons.mp hl).2 fun hr y hy => hf hr y (by simp [hy])]
      split <;> rfl

theorem foldl_insertAfter_perm (stay : α → α → Bool) (l acc : List α) :
    (l.foldl (fun acc r => insertAfter (stay r) r acc) acc).Perm (acc ++ l) := by
  induction l generalizing acc with
  | nil => simp
  | cons r rs ih =>
    exact (ih _).trans (((insertAfter_perm _ r acc).append_right rs).trans List.perm_middle.symm)

section sort
variable (le : α → α → Bool) (htot : ∀ a b, le a b = false → le b a = true)
  (htr : ∀ a b c, le a b = true → le b c = true → le a c = true)
include htot htr

theorem sorted_insertAfter (r : α) {l : List α} (hl : l.Pairwise fun a b => le a b = true) :
    (insertAfter (le · r) r l).Pairwise fun a b => le a b = true :=
  insertAfter_pairwise (R := fun a b => le a b = true) (fun h1 h2 => htr _ _ _ h1 h2) hl (fun _ _ h => h)
    fun x _ h => htot x r h

/-- the fold of the insertion is Python's `sorted`: ascending, a permutation, and stable - every class of elements
    that are pairwise "not greater" keeps its arrival order -/
theorem foldl_insertAfter_spec (l acc : List α) (ha : acc.Pairwise fun a b => le a b = true) :
    (l.foldl (fun acc r => insertAfter (le · r) r acc) acc).Pairwise (fun a b => le a b = true) ∧
    (l.foldl (fun acc r => insertAfter (le · r) r acc) acc).Perm (acc ++ l) ∧
    ∀ f : α → Bool, (∀ x y, f x = true → f y = true → le x y = true) →
      (l.foldl (fun acc r => insertAfter (le · r) r acc) acc).filter f = acc.filter f ++ l.filter f := by
  induction l generalizing acc with
  | nil => simpa using ha
  | cons r rs ih =>
    obtain ⟨h1, -, h3⟩ := ih _ (sorted_insertAfter le htot htr r ha)
    refine ⟨h1, foldl_insertAfter_perm (fun r x => le x r) (r :: rs) acc, fun f hf => ?_⟩
    rw [List.foldl_cons, h3 f hf, filter_insertAfter f r (ha.imp fun hab hb => htr _ _ _ hab hb) fun hr y _ hy => hf y r hy hr,
      List.append_assoc, ← List.filter_append]
    rfl

end sort

theorem foldl_insertAfter_congr {stay stay' : α → α → Bool} (l acc : List α)
    (h : ∀ r ∈ l, ∀ x, x ∈ acc ∨ x ∈ l → stay r x = stay' r x) :
    l.foldl (fun acc r => insertAfter (stay r) r acc) acc = l.foldl (fun acc r => insertAfter (stay' r) r acc) acc := by
  induction l generalizing acc with
  | nil => rfl
  | cons r rs ih =>
    rw [List.foldl_cons, List.foldl_cons, insertAfter_congr r fun x hx => h r (by simp) x (.inl hx)]
    exact ih _ fun r' hr' x hx => h r' (by simp [hr']) x <| by
      rcases hx with hx | hx
      · rcases mem_insertAfter.mp hx with rfl | hx <;> simp [*]
      · simp [hx]

end Casbin
